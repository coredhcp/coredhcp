import CoreDhcp.Model.IPCalc
import CoreDhcp.Model.Bits
import CoreDhcp.Model.BitsWords
import CoreDhcp.Model.Alloc6
import CoreDhcp.Model.Alloc4
import CoreDhcp.Spec.IPCalc
import CoreDhcp.Spec.Alloc
import CoreDhcp.Model.Range
import CoreDhcp.Spec.Range
import CoreDhcp.Model.Prefix
import CoreDhcp.Spec.Prefix
import CoreDhcp.Model.Dispatch
import CoreDhcp.Model.Plugins
import CoreDhcp.Spec.Dispatch
import CoreDhcp.Model.File
import CoreDhcp.Spec.File
import CoreDhcp.Model.Config
import CoreDhcp.Spec.Config
import CoreDhcp.Model.OptPlug
import CoreDhcp.Spec.OptPlug
import CoreDhcp.Model.HwKey
import CoreDhcp.Model.System
import CoreDhcp.Model.Start
import CoreDhcp.Model.Ethernet
import CoreDhcp.Model.ServeLoop
import CoreDhcp.Model.FileSetup
import CoreDhcp.Model.RangeSetup
import CoreDhcp.Model.MainReg
import CoreDhcp.Model.Server
import CoreDhcp.Model.ConfigLoad
import CoreDhcp.Model.Storage
import CoreDhcp.Model.ServerState
