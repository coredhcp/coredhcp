/- `#print axioms` for the theorems `./check` asks for (`checklib/props.py`) and for lemmas under them; machine-read by ./check -/
import CoreDhcp.Props.C20
import CoreDhcp.Props.Gen
import CoreDhcp.Props.GenDispatch4
import CoreDhcp.Props.GenDispatch6
import CoreDhcp.Props.GenServerID6
import CoreDhcp.Props.GenNetmask
import CoreDhcp.Props.C02
import CoreDhcp.Props.C03
import CoreDhcp.Props.C03Key
import CoreDhcp.Props.C04
import CoreDhcp.Props.C05
import CoreDhcp.Props.C06
import CoreDhcp.Props.C07
import CoreDhcp.Props.C08
import CoreDhcp.Props.C09
import CoreDhcp.Props.C10
import CoreDhcp.Props.C01
import CoreDhcp.Props.C16
import CoreDhcp.Props.C18
import CoreDhcp.Props.C14
import CoreDhcp.Props.C17
import CoreDhcp.Props.C19
import CoreDhcp.Props.Builtin
import CoreDhcp.Props.C11
import CoreDhcp.Props.C12
import CoreDhcp.Props.C13
import CoreDhcp.Props.C15
import CoreDhcp.Props.System
import CoreDhcp.Props.GenAlloc4
import CoreDhcp.Props.GenHandlers4
import CoreDhcp.Props.GenAlloc6
import CoreDhcp.Props.GenLoadPlugins
import CoreDhcp.Props.GenRange4
import CoreDhcp.Props.GenFilePlugin
import CoreDhcp.Props.GenConfig
import CoreDhcp.Props.GenPrefix6
import CoreDhcp.Props.GenHandlers6
import CoreDhcp.Props.GenSetups
import CoreDhcp.Props.GenStart
import CoreDhcp.Props.GenStorage
import CoreDhcp.Props.GenEthernet
import CoreDhcp.Props.GenServeLoop
import CoreDhcp.Props.GenFileSetup
import CoreDhcp.Props.GenRangeSetup
import CoreDhcp.Props.GenMainReg
import CoreDhcp.Props.Server
import CoreDhcp.Props.GenConfigLoad
import CoreDhcp.Props.ServerState
import CoreDhcp.Props.BitsWords
open CoreDhcp
#print axioms C20_offset_exact
#print axioms C20_offset_symm
#print axioms C20_addPrefixes_exact
#print axioms C20_inverse
#print axioms C20_offset_spec
#print axioms C20_addPrefixes_spec
#print axioms C20_D1_prefix_refuted
#print axioms C02_holds
#print axioms C02_progress
#print axioms C03_holds
#print axioms C03_restore
#print axioms C03_promise_is_kept_lease
#print axioms C03_D7_prefix_refuted
#print axioms C04_alloc6
#print axioms C04_alloc4
#print axioms C05_alloc6
#print axioms C05_alloc4
#print axioms C05_noaddr_unchanged6
#print axioms C05_noaddr_unchanged4
#print axioms C05_progress6
#print axioms C05_progress4
#print axioms C06_alloc6
#print axioms C06_alloc4
#print axioms C06_error_unchanged6
#print axioms C06_error_unchanged4
#print axioms C06_D2_prefix_refuted
#print axioms C07_alloc6
#print axioms C07_alloc4
#print axioms C11_holds
#print axioms C11_never_answers_non_requests
#print axioms C12_holds
#print axioms C12_mirror
#print axioms C13_order
#print axioms C13_stop
#print axioms C13_sends_last4
#print axioms C13_sends_last6
#print axioms C13_load_exact
#print axioms C13_load_aborts
#print axioms C13_load_succeeds
#print axioms C15_holds
#print axioms C15_has_interface
#print axioms C08_holds
#print axioms C09_holds
#print axioms C09_frame
#print axioms C10_holds
#print axioms C10_accept_iff_wellformed
#print axioms C10_mapping_is_file
#print axioms C10_all_or_nothing
#print axioms C10_own_file
#print axioms C10_D8_prefix_refuted
#print axioms C01_dispatch4
#print axioms C01_dispatch6
#print axioms C01_range_never_panics
#print axioms C01_alloc6_never_bug
#print axioms C01_alloc4_never_panics
#print axioms C01_chain_bounded
#print axioms C16_alloc6_any_schedule
#print axioms C16_alloc4_any_schedule
#print axioms C16_range_any_schedule
#print axioms C16_prefix_any_schedule
#print axioms C16_file_any_schedule
#print axioms C18_holds
#print axioms C18_plugin_list_exact
#print axioms C18_rejects_bad_plugins
#print axioms C18_rejects_listen_and_interface
#print axioms C18_address_form
#print axioms C18_rejects_bad_address
#print axioms C18_needs_a_protocol
#print axioms C14_v6
#print axioms C14_v6_matrix
#print axioms C14_v6_matrix_all
#print axioms C14_v6_duid_of_setup
#print axioms C14_v4
#print axioms C14_v4_addr_of_setup
#print axioms C17_builtin4
#print axioms C17_builtin6
#print axioms C17_netmask4
#print axioms C17_router4
#print axioms C17_searchdomains4
#print axioms C17_searchdomains6
#print axioms C17_staticroute4
#print axioms C17_dns4
#print axioms C17_dns6
#print axioms C17_mtu4
#print axioms C17_nbp4
#print axioms C17_nbp6
#print axioms C17_leasetime4
#print axioms C17_ipv6only4
#print axioms C17_autoconfigure4
#print axioms C17_sleep4
#print axioms C17_sleep6
#print axioms C17_inrange_mtu
#print axioms C17_inrange_seconds
#print axioms C17_mtu_accepted_in_range
#print axioms C17_leasetime_accepted_in_range
#print axioms C17_ipv6only_accepted_in_range
#print axioms C17_accepted_in_range
#print axioms C17_accepted_exact
#print axioms C17_exact_iff_in_range
#print axioms C17_mtu4_accepted
#print axioms C17_leasetime4_accepted
#print axioms C17_ipv6only4_accepted
#print axioms C17_D22_mtu_refuted
#print axioms C17_D23_leasetime_refuted
#print axioms C17_D24_ipv6only_refuted
#print axioms C17_D17_prefix_refuted
#print axioms C11_builtin_preserve_mt
#print axioms C12_builtin_preserve_mt
#print axioms C11_builtin_preserve_echo_opts
#print axioms C12_builtin_preserve_cid
#print axioms C19_setup_wireOK
#print axioms C19_setup_wireOK4
#print axioms C19_staticroute_rejects_non_ipv4
#print axioms C19_mtu_rejects_out_of_range
#print axioms C19_leasetime_rejects_out_of_range
#print axioms C19_ipv6only_rejects_out_of_range
#print axioms C19_routes_roundtrip
#print axioms C19_labels_roundtrip
#print axioms C19_ips_roundtrip
#print axioms C19_bootparams_roundtrip
#print axioms C19_oversize6_refuted
#print axioms C13_nil_stop_builtin
#print axioms C13_nil_stop_builtin6
#print axioms C03_key_roundtrip
#print axioms C03_macString_injective
#print axioms C03_parse_macString
#print axioms C03_hkey_total
#print axioms C03_holds_concrete
#print axioms C03_restore_concrete
#print axioms GEN_offset_eq
#print axioms GEN_addPrefixes_eq
#print axioms GEN_peer4_eq
#print axioms GEN_pinIf4_eq
#print axioms GEN_woob4_eq
#print axioms GEN_stub4_eq
#print axioms GEN_stubType4_eq
#print axioms GEN_dispatch4_eq
#print axioms GEN_replyKind6_eq
#print axioms GEN_stub6_eq
#print axioms GEN_replyKind6_spec
#print axioms GEN_replyKind6_table
#print axioms GEN_replyKind6_all
#print axioms GEN_pinIf6_eq
#print axioms GEN_woob6_eq
#print axioms GEN_dispatch6_eq
#print axioms GEN_sidDecision_spec
#print axioms GEN_sidDecision_table
#print axioms GEN_sidDecision_all
#print axioms GEN_sidDecision_model
#print axioms GEN_sidDecision_rel6
#print axioms GEN_checkValidNetmask_eq
#print axioms GEN_checkValidNetmask_masks
#print axioms SYS_C11
#print axioms SYS_C15
#print axioms SYS_C12
#print axioms SYS_C14_drop4
#print axioms SYS_C14_drop6
#print axioms SYS_file_stops4
#print axioms SYS_file_address4
#print axioms SYS_frame4
#print axioms SYS_file_address4_cfg
#print axioms SYS_C17_delivered4
#print axioms SYS_frame6
#print axioms SYS_pd_delivered6
#print axioms SYS_pd_roundtrip
#print axioms SYS_pd_answers_each
#print axioms GEN_a4_toIP_eq
#print axioms GEN_a4_toIP_ofNat
#print axioms GEN_a4_toIP_panic_iff
#print axioms GEN_a4_toOffset_eq
#print axioms GEN_a4_new_eq
#print axioms GEN_a4_free_eq
#print axioms GEN_a4_allocate_eq
#print axioms GEN_a4_allocate_eq'
#print axioms GEN_h4_mtu_eq
#print axioms GEN_h4_netmask_eq
#print axioms GEN_h4_router_eq
#print axioms GEN_h4_dns_eq
#print axioms GEN_h4_leasetime_eq
#print axioms GEN_h4_searchdomains_eq
#print axioms GEN_h4_staticroute_eq
#print axioms GEN_h4_ipv6only_eq
#print axioms GEN_h4_autoconfigure_eq
#print axioms GEN_h4_sleep_eq
#print axioms GEN_h4_serverid_eq
#print axioms GEN_h4_nbp_eq
#print axioms GEN_h4_nbp_unset
#print axioms GEN_a6_toIndex_eq
#print axioms GEN_a6_toIndex_none
#print axioms GEN_a6_toPrefix_eq
#print axioms GEN_a6_contains_eq
#print axioms GEN_a6_contains_none
#print axioms GEN_a6_new_eq
#print axioms GEN_a6_new_outside_domain
#print axioms GEN_a6_new_other
#print axioms GEN_a6_free_eq
#print axioms GEN_a6_free_other
#print axioms GEN_a6_free_outside
#print axioms GEN_a6_allocate_eq
#print axioms GEN_a6_allocate_eq'
#print axioms GEN_lp_loop6_acc
#print axioms GEN_lp_loop4_acc
#print axioms GEN_lp_chain6_eq
#print axioms GEN_lp_chain4_eq
#print axioms GEN_lp_load_tagged
#print axioms GEN_lp_load_eq
#print axioms GEN_lp_load_ok
#print axioms GEN_range_handler4_eq
#print axioms GEN_range_handler4_eq'
#print axioms GEN_range_remarkBody_eq
#print axioms GEN_range_remark_eq
#print axioms GEN_range_setup_remark
#print axioms GEN_file_body4_eq
#print axioms GEN_file_body6_eq
#print axioms GEN_file_loop4_eq
#print axioms GEN_file_loop6_eq
#print axioms GEN_file_load4_eq
#print axioms GEN_file_load6_eq
#print axioms GEN_file_load4_model
#print axioms GEN_file_load6_model
#print axioms GEN_file_load_unreadable
#print axioms GEN_file_loadFromFile_eq
#print axioms GEN_file_loadFromFile_model
#print axioms GEN_file_loadFromFile_unreadable
#print axioms GEN_file_loadFromFile_error_unchanged
#print axioms GEN_file_handle4_raw
#print axioms GEN_file_handle4_eq
#print axioms GEN_file_served4_eq
#print axioms GEN_file_handle4_other
#print axioms GEN_file_handle6_raw
#print axioms GEN_file_handle6_eq
#print axioms GEN_file_served6_eq
#print axioms GEN_file_handle6_undecapsulated
#print axioms GEN_file_handle6_other
#print axioms GEN_file_exported
#print axioms GEN_file_static_after_load
#print axioms Gen7.wf_init
#print axioms Gen7.wf_load
#print axioms GEN_cfg_splitHostPort_eq
#print axioms GEN_cfg_getListenAddress_eq
#print axioms GEN_cfg_getListenAddress_no_panic
#print axioms GEN_cfg_expand_eq
#print axioms GEN_cfg_expand_no_panic
#print axioms GEN_cfg_defaultListen_eq
#print axioms GEN_cfg_defaultListen_no_panic
#print axioms GEN_cfg_listenLoop_acc
#print axioms GEN_cfg_listenLoop_eq
#print axioms GEN_cfg_listenLoop_no_panic
#print axioms GEN_cfg_parseListen_eq
#print axioms GEN_cfg_parseListen_no_panic
#print axioms GEN_cfg_pluginsLoop_acc
#print axioms GEN_cfg_pluginsLoop_no_panic
#print axioms GEN_cfg_parsePlugins_eq
#print axioms GEN_cfg_parsePlugins_no_panic
#print axioms GEN_cfg_getPlugins_eq
#print axioms GEN_cfg_getPlugins_no_panic
#print axioms GEN_cfg_parseSection_eq
#print axioms GEN_cfg_parseSection_absent
#print axioms GEN_cfg_parseConfig_no_panic
#print axioms GEN_cfg_load_eq
#print axioms GEN_cfg_load_no_panic
#print axioms GEN_cfg_bad_version
#print axioms GEN_cfg_load_v6_first
#print axioms GEN_cfg_parseConfig_plugins_first
#print axioms GEN_pd_loop1_eq
#print axioms GEN_pd_loop2_eq
#print axioms GEN_pd_loop3_model
#print axioms GEN_pd_loop3_eq
#print axioms GEN_pd_handleIAPD_model
#print axioms GEN_pd_handleIAPD_gen
#print axioms GEN_pd_handleIAPD_eq
#print axioms GEN_pd_handleMsg_model
#print axioms GEN_pd_handleMsg_gen
#print axioms GEN_pd_handleMsg_eq
#print axioms GEN_pd_handle_undecapsulated
#print axioms GEN_pd_handle_total
#print axioms GEN_pd_setup_eq
#print axioms GEN_pd_setup_arity
#print axioms GEN_h6_dns_eq
#print axioms GEN_h6_dns_undecap
#print axioms GEN_h6_searchdomains_eq
#print axioms GEN_h6_searchdomains_blind
#print axioms GEN_h6_sleep_eq
#print axioms GEN_h6_sleep_blind
#print axioms GEN_h6_nbp_loop
#print axioms GEN_h6_nbp_eq
#print axioms GEN_h6_nbp_unset
#print axioms GEN_h6_nbp_unset_differs
#print axioms GEN_h6_nbp_undecap
#print axioms GEN_h6_serverid_eq
#print axioms GEN_h6_serverid_undecap
#print axioms GEN_h6_serverid_decision
#print axioms GEN_setup_mtu4_eq
#print axioms GEN_setup_sleep4_eq
#print axioms GEN_setup_sleep6_eq
#print axioms GEN_setup_leasetime4_eq
#print axioms GEN_setup_ipv6only4_eq
#print axioms GEN_setup_autoconfigure4_eq
#print axioms GEN_setup_serverid4_eq
#print axioms GEN_setup_serverid6_eq
#print axioms GEN_setup_nbp4_eq
#print axioms GEN_setup_nbp6_eq
#print axioms GEN_setup_netmask4_eq
#print axioms GEN_setup_netmask4_eq_wf
#print axioms GEN_setup_netmask4_needs_len
#print axioms GEN_setup_router4_eq
#print axioms GEN_setup_dns4_eq
#print axioms GEN_setup_dns6_eq
#print axioms GEN_setup_staticroute4_eq
#print axioms GEN_setup_searchdomains4_eq
#print axioms GEN_setup_searchdomains6_eq
#print axioms GEN_setup_router4_accumulates
#print axioms GEN_setup_ipv6only4_keeps
#print axioms GEN_setup_autoconfigure4_keeps
#print axioms GEN_setup_nbp4_keeps66
#print axioms GEN_setup_nbp6_keeps60
#print axioms SYS_file_address4_lease
#print axioms SYS_C14_stamped4
#print axioms SYS_C14_stamped6
#print axioms SYS_C02_lease4
#print axioms SYS_C02_addr4
#print axioms GEN_start_listen4_eq
#print axioms GEN_start_listen6_eq
#print axioms GEN_start_closeLoop_acc
#print axioms GEN_start_close_eq
#print axioms GEN_start_loop6_acc
#print axioms GEN_start_loop4_acc
#print axioms GEN_start_start_eq
#print axioms START_every_section_listens
#print axioms START_whole_chain
#print axioms START_unbound_has_pktinfo
#print axioms START_cleanup
#print axioms START_failed_listen_leaks_socket
#print axioms START_load_error_opens_nothing
#print axioms GEN_storage_parseHWAddr_eq
#print axioms GEN_storage_parseHWAddr_nopanic
#print axioms GEN_storage_parseUint_probes
#print axioms GEN_storage_split_probes
#print axioms GEN_storage_loadRecords_spec
#print axioms GEN_storage_loadRecords_eq
#print axioms GEN_storage_loadRecords_concrete
#print axioms GEN_storage_query_cols
#print axioms GEN_storage_save_eq
#print axioms GEN_storage_schema
#print axioms GEN_storage_loadDB_eq
#print axioms GEN_storage_register_eq
#print axioms GEN_storage_key_roundtrip
#print axioms GEN_eth_layers
#print axioms GEN_eth_sendEthernet_eq
#print axioms C15_frame
#print axioms C15_frame_fields
#print axioms C15_frame_none_iff
#print axioms GEN_eth_frame
#print axioms GEN_eth_payload_probes
#print axioms GEN_eth_payload_not_toBytes
#print axioms GEN_serve_pool_new
#print axioms GEN_serve_iter6_eq
#print axioms GEN_serve_iter4_eq
#print axioms GEN_serve_head6_eq
#print axioms GEN_serve_head4_eq
#print axioms GEN_serve_code_eq
#print axioms SERVE_reads_full_buffer
#print axioms SERVE_spawn_own_values
#print axioms SERVE_spawn_own_values_run
#print axioms SERVE_one_spawn_per_datagram
#print axioms SERVE_one_spawn_per_datagram_run
#print axioms SERVE_buffer_back_once
#print axioms SERVE_buffer_back_once_gen
#print axioms SERVE_no_two_owners
#print axioms SERVE_no_two_owners_gen
#print axioms SERVE_no_two_owners_apart
#print axioms SERVE_read_into_unshared
#print axioms GEN_filesetup_setup_eq
#print axioms GEN_filesetup_refresh_eq
#print axioms GEN_filesetup_reg_eq
#print axioms FILESETUP_watches_the_configured_name
#print axioms FILESETUP_every_event_reloads
#print axioms FILESETUP_failed_reload_keeps_watching
#print axioms FILESETUP_serves_own_table
#print axioms FILESETUP_no_autorefresh_no_watcher
#print axioms FILESETUP_initial_load_error_aborts
#print axioms FILESETUP_refresh_is_load
#print axioms FILESETUP_later_good_version_picked_up
#print axioms FILESETUP_replaced_file_is_watched_again
#print axioms FILESETUP_watch_survives_replacements
#print axioms GEN_rangesetup_setup_eq
#print axioms GEN_rangesetup_plugin_eq
#print axioms RangeSetup.setup_handler
#print axioms RANGESETUP_no_partial_state
#print axioms RANGESETUP_accepts_iff
#print axioms RANGESETUP_argument_roles
#print axioms RANGESETUP_range_wellformed
#print axioms RANGESETUP_one_address_range_rejected
#print axioms RangeSetup.goRoundSecond_of_nonneg
#print axioms RangeSetup.goRoundSecond_of_accepted
#print axioms RangeSetup.goRoundSecond_whole
#print axioms RANGESETUP_lease_is_kept_lease
#print axioms RANGESETUP_accepted_lease_fits_wire
#print axioms RANGESETUP_extra_args_ignored
#print axioms RANGESETUP_plugin_decl
#print axioms A4.allocate_keeps_bounds
#print axioms remark_keeps_bounds
#print axioms RANGESETUP_allocator_never_refuses
#print axioms RANGESETUP_accepted_starts_handler
#print axioms RANGESETUP_accepted_serves_C02_C03
#print axioms GEN_mainreg_register_eq
#print axioms GEN_mainreg_printLoop_eq
#print axioms GEN_mainreg_regLoop_eq
#print axioms GEN_mainreg_registry0
#print axioms GEN_mainreg_main_eq
#print axioms MAINREG_flag_table
#print axioms MAINREG_log_levels
#print axioms MAINREG_names_distinct
#print axioms MAINREG_registration_never_panics
#print axioms MAINREG_registry_exact
#print axioms MAINREG_second_registration_panics
#print axioms MAINREG_view4
#print axioms MAINREG_view6
#print axioms MAINREG_unknown_name_rejected
#print axioms MAINREG_unsupported_skipped
#print axioms MAINREG_load_exact4
#print axioms MAINREG_load_exact6
#print axioms MAINREG_protocol_support
#print axioms MAINREG_protocol_support_models
#print axioms MAINREG_config_before_sockets
#print axioms MAINREG_config_before_sockets_gen
#print axioms MAINREG_run
#print axioms MAINREG_list_plugins_is_pure
#print axioms SERVER_trace_is_main
#print axioms SERVER_started_run_waits
#print axioms SERVER_listeners_get_configured_chain
#print axioms Server.load_fails
#print axioms Server.plugins_fail
#print axioms Server.chains_fail
#print axioms SERVER_bad_config_opens_nothing
#print axioms SERVER_C13_end_to_end4
#print axioms SERVER_C13_end_to_end6
#print axioms Server.optChain4
#print axioms Server.optChain6
#print axioms SERVER_builtin_chain_is_sys4
#print axioms SERVER_builtin_chain_is_sys6
#print axioms GEN_configload_load_eq
#print axioms GEN_configload_tail_eq
#print axioms ConfigLoad.settingsFor_explicit
#print axioms ConfigLoad.settingsFor_search
#print axioms CONFIGLOAD_asked
#print axioms CONFIGLOAD_type_is_yaml_always
#print axioms CONFIGLOAD_explicit_path_verbatim
#print axioms CONFIGLOAD_search_order
#print axioms CONFIGLOAD_reads_once_with_these_settings
#print axioms CONFIGLOAD_read_error_aborts
#print axioms CONFIGLOAD_parses_what_was_read
#print axioms CONFIGLOAD_fresh_instance
#print axioms CONFIGLOAD_tail_is_unit_config
#print axioms CONFIGLOAD_load_is_C18_model
#print axioms CONFIGLOAD_C18
#print axioms CONFIGLOAD_never_panics
#print axioms CONFIGLOAD_main_reads_conf_flag
#print axioms SYSST_range_steps_are_handles
#print axioms SYSST_unreached_keeps_state
#print axioms SYSST_junk_keeps_state
#print axioms SYSST_progress
#print axioms SYSST_reply_is_event
#print axioms SYSST_C02_history
#print axioms SYSST_C02_history_explicit
#print axioms SYSST_sent_replies_are_events
#print axioms SYSST_C02_wire
#print axioms SYSST_prefix_steps_are_handles
#print axioms SYSST_unreached_keeps_state6
#print axioms SYSST_reply_is_event6
#print axioms SYSST_C08_history
-- bits-and-blooms/bitset at word level refines the list model (Props/BitsWords.lean)
#print axioms WBits.IsNextClear_unique
#print axioms WBits.ctz_spec
#print axioms WBits.scan_spec
#print axioms WBits.nextClear_spec
#print axioms WBits.nextClearFrom_spec
#print axioms WBits.set_bit
#print axioms WBits.clear_bit
#print axioms WBits.and_mask_ne_zero
#print axioms WBits.BITSW_wf_new
#print axioms WBits.BITSW_new_refines
#print axioms WBits.BITSW_len_refines
#print axioms WBits.BITSW_test_refines
#print axioms WBits.BITSW_wf_set
#print axioms WBits.BITSW_set_refines
#print axioms WBits.BITSW_wf_clear
#print axioms WBits.BITSW_clear_refines
#print axioms WBits.BITSW_nextClear_refines
#print axioms WBits.BITSW_nextClearFrom_zero
#print axioms WBits.BITSW_nextClear0_refines
#print axioms WBits.BITSW_nextClear_least
#print axioms WBits.BITSW_run_refines
