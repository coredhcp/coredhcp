/-
GEN (decision logic of `HandleMsg6`) — the definitions regenerated from the Go source on every run
(Generated/Dispatch6.lean, written by `harness gen -unit dispatch6` from the go/ast of
server/handle.go) are equal to the hand-written model (Model/Dispatch.lean: `stub6`, `pin`,
`dispatch6`) and to the specification (Spec/Dispatch.lean: `replyType6`) the property theorems are
about.

The generated functions take ATOMS (what the Go conditions test) as arguments; every theorem
below instantiates the atoms with their meaning in the model:

  mt, rapid       = `m.mt`, `m.rapid`            peerIsLinkLocal = `isLinkLocal6 src`
  bound           = index of the bound interface  oobNonNil / oobIdx = `oob.isSome` / `oob.getD 0`

The translator and what an edit of the source does to this file: DESIGN.md §1.5b.
-/
import CoreDhcp.Generated.Dispatch6
import CoreDhcp.Proofs.Dispatch
namespace CoreDhcp

/-- the generated `switch msg.Type()` is the reply-type table of C12's specification -/
theorem GEN_replyKind6_spec (m : Msg6) : replyType6 m = Generated.replyKind6 m.mt m.rapid := by
  unfold replyType6 Generated.replyKind6
  simp only [beq_iff_eq, Bool.or_eq_true, List.mem_cons, List.not_mem_nil, or_false, or_assoc]
  by_cases h1 : m.mt = 1
  · rw [if_pos h1, if_pos h1]
    cases m.rapid <;> rfl
  · rw [if_neg h1, if_neg h1]

/-- the whole response: type from the generated switch, transaction and client id echoed,
Rapid Commit echoed for a SOLICIT (library behaviour, mirrored by the model). -/
theorem GEN_stub6_eq (m : Msg6) :
    stub6 m = match m.cid with
      | none => none
      | some c => (Generated.replyKind6 m.mt m.rapid).map
          (fun k => ⟨k, m.xid, some c, decide (m.mt = 1) && m.rapid, []⟩) := by
  rw [stub6_eq, GEN_replyKind6_spec]
  cases m.cid <;> rfl

/-- the `switch msg.Type()` gives the type of the response `stub6` builds -/
theorem GEN_replyKind6_eq : ∀ (m : Msg6) (c : List Nat), m.cid = some c →
    (stub6 m).map (·.mt) = Generated.replyKind6 m.mt m.rapid := by
  intro m c hc
  rw [GEN_stub6_eq, hc]
  cases Generated.replyKind6 m.mt m.rapid <;> rfl

/-- as one Boolean table: all 256 message types × Rapid Commit present / absent, the rows being
instances of the two theorems above -/
theorem GEN_replyKind6_table :
    (List.range 256).all (fun t => [false, true].all (fun r =>
      replyType6 ⟨t, 0, none, r⟩ == Generated.replyKind6 t r &&
      (stub6 ⟨t, 0, some [], r⟩).map (·.mt) == Generated.replyKind6 t r)) = true := by
  refine List.all_eq_true.mpr fun t _ => List.all_eq_true.mpr fun r _ => ?_
  rw [GEN_replyKind6_spec, GEN_replyKind6_eq ⟨t, 0, some [], r⟩ [] rfl, beq_self_eq_true, Bool.and_self]

theorem GEN_replyKind6_all (t : Nat) (ht : t < 256) (r : Bool) :
    replyType6 ⟨t, 0, none, r⟩ = Generated.replyKind6 t r ∧
    (stub6 ⟨t, 0, some [], r⟩).map (·.mt) = Generated.replyKind6 t r :=
  ⟨GEN_replyKind6_spec _, GEN_replyKind6_eq ⟨t, 0, some [], r⟩ [] rfl⟩

theorem GEN_pinIf6_eq (bound : Nat) (oob : Option Nat) :
    pin bound oob = Generated.pinIf6 bound oob.isSome (oob.getD 0) := pin_atoms bound oob

/-- the `isLinkLocal6 src` guard and `pin` as `dispatch6` combines them -/
theorem GEN_woob6_eq (bound : Nat) (oob : Option Nat) (src : Addr) :
    (if isLinkLocal6 src then pin bound oob else none) =
      Generated.woob6 (isLinkLocal6 src) bound oob.isSome (oob.getD 0) := by
  rw [GEN_pinIf6_eq]
  unfold Generated.woob6 Generated.pinIf6
  rfl

/-- `HandleMsg6` end to end -/
theorem GEN_dispatch6_eq (bound : Nat) (oob : Option Nat) (src : Addr) (hs : List Handler6) (input : Option Pkt6) :
    dispatch6 bound oob src hs input =
      match input with
      | none => .drop
      | some d =>
        match d.msg with
        | none => .drop
        | some m =>
          match m.cid with
          | none => .drop
          | some c =>
            match Generated.replyKind6 m.mt m.rapid with
            | none => .drop
            | some k =>
              match (runChain hs d 0 (some ⟨k, m.xid, some c, decide (m.mt = 1) && m.rapid, []⟩)).1 with
              | none => .drop
              | some resp =>
                let woob := Generated.woob6 (isLinkLocal6 src) bound oob.isSome (oob.getD 0)
                match d.layers with
                | [] => .send [] resp woob
                | l :: _ => if l.mt ≠ 12 then .drop else .send (mirror d.layers) resp woob := by
  cases input with
  | none => rfl
  | some d =>
    unfold dispatch6
    dsimp only
    rw [GEN_woob6_eq]
    cases d.msg with
    | none => rfl
    | some m =>
      dsimp only
      rw [GEN_stub6_eq]
      cases m.cid with
      | none => rfl
      | some c => cases Generated.replyKind6 m.mt m.rapid <;> rfl

end CoreDhcp
