/-
C18 — Config loading: exact plugin lists and listen addresses; errors, not panics.
The property theorems, from model = specification (Proofs/Config.lean). Partial: the YAML reader, viper and
cast are third-party and outside the model, which starts from what they deliver.
-/
import CoreDhcp.Proofs.Config
namespace CoreDhcp

/-- `Load` returns exactly what the property demands: per protocol the listed one-key items in order with their
whitespace-separated arguments; each listen string as [address][%zone][:port] with the wildcard address and
default port filled in; unzoned link-local multicast addresses expanded per suitable interface; an error for
every listed error case. -/
theorem C18_holds (ifs : List Iface) (s6 s4 : Option SectionView) :
    C18.holds ifs s6 s4 (loadConfig ifs s6 s4) = true := by
  unfold C18.holds loadConfig
  rw [funext (parseSection_eq true ifs), funext (parseSection_eq false ifs)]
  -- both sides compute the same two options; where there is a configuration, `sameCfg` is asked of equal arguments
  cases s6 with
  | none =>
    cases s4 with
    | none => rfl
    | some t4 =>
      dsimp only
      cases specSection false ifs t4 with
      | none => rfl
      | some c4 => exact sameCfg_pair none (some c4)
  | some t6 =>
    dsimp only
    cases specSection true ifs t6 with
    | none => cases s4 <;> rfl
    | some c6 =>
      cases s4 with
      | none => exact sameCfg_pair (some c6) none
      | some t4 =>
        dsimp only
        cases specSection false ifs t4 with
        | none => rfl
        | some c4 => exact sameCfg_pair (some c6) (some c4)

/-- on success the plugin list of a configured protocol is exactly the listed one-key items, in order -/
theorem C18_plugin_list_exact (v6 : Bool) (ifs : List Iface) (sec : SectionView) (cfg : ServerConfig)
    (h : parseSection v6 ifs sec = some cfg) :
    ∃ items, sec.plugins = some items ∧ itemsOk items = true ∧ cfg.plugins = itemsList items := by
  rw [parseSection_eq_bind] at h
  obtain ⟨ps, hps, h⟩ := Option.bind_eq_some_iff.1 h
  obtain ⟨items, hi, hpp⟩ := Option.bind_eq_some_iff.1 hps
  obtain ⟨ls, _, rfl⟩ := Option.map_eq_some_iff.1 h
  rw [parsePlugins_eq] at hpp
  cases hok : itemsOk items with
  | false => rw [hok] at hpp; cases hpp
  | true => rw [hok, if_pos rfl] at hpp; exact ⟨items, hi, hok, (Option.some.inj hpp).symm⟩

/-- a missing / non-list plugins section, a non-map item or an item naming several plugins is an error -/
theorem C18_rejects_bad_plugins (v6 : Bool) (ifs : List Iface) (sec : SectionView)
    (h : sec.plugins = none ∨ ∃ items, sec.plugins = some items ∧ itemsOk items = false) :
    parseSection v6 ifs sec = none := by
  rw [parseSection_eq]
  unfold specSection
  rcases h with h | ⟨items, h, hok⟩
  · simp [h]
  · simp [h, hok]

/-- using both `listen` and `interface` is an error -/
theorem C18_rejects_listen_and_interface (v6 : Bool) (ifs : List Iface) (sec : SectionView)
    (hi : sec.iface.isSome = true) (hl : sec.listen.isSome = true) : parseSection v6 ifs sec = none := by
  have hpl : parseListen v6 ifs sec = none := by
    unfold parseListen
    cases h1 : sec.iface with
    | none => simp [h1] at hi
    | some i =>
      cases h2 : sec.listen with
      | none => simp [h2] at hl
      | some l => rfl
  rw [parseSection_eq_bind, hpl]
  cases sec.plugins.bind parsePlugins <;> rfl

/-- an accepted listen address has the protocol's family, the default port when none was given,
and the zone that follows the last '%' -/
theorem C18_address_form (v6 : Bool) (o : AddrOracle) (a : UDPAddr) (h : getListenAddress v6 o = some a) :
    (match a.ip with | .v4 _ => v6 = false | .v6 _ => v6 = true | .none => False) ∧
    specAddr v6 o = some a := by
  refine ⟨?_, (specAddr_eq v6 o).trans h⟩
  rw [getListenAddress_eq_bind] at h
  obtain ⟨t, _, h⟩ := Option.bind_eq_some_iff.1 h
  exact listenAddr_family h

/-- an unparsable address, an address of the wrong family or an unparsable port is an error -/
theorem C18_rejects_bad_address (v6 : Bool) (o : AddrOracle) (h : specAddr v6 o = none) :
    getListenAddress v6 o = none :=
  (specAddr_eq v6 o).symm.trans h

/-- neither protocol configured is an error -/
theorem C18_needs_a_protocol (ifs : List Iface) : loadConfig ifs none none = none := rfl

/-- non-vacuity: "[fe80::1%lo]:5470" for DHCPv6 -/
example : getListenAddress true ⟨"[fe80::1%lo]:5470", some ("fe80::1%lo", "5470"), none,
    [("fe80::1", .v6 ⟨0xfe80000000000000#64, 1#64⟩)], some 5470⟩ =
    some ⟨.v6 ⟨0xfe80000000000000#64, 1#64⟩, 5470, "lo"⟩ := by decide +kernel

end CoreDhcp
