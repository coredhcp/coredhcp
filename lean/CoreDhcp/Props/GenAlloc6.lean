/-
GEN (IPv6 prefix allocator) — the definitions regenerated from the Go source on every run
(Generated/Alloc6.lean, written by `harness gen -unit alloc6` from the go/ast of
plugins/allocators/bitmap/bitmap.go: toIndex, toPrefix, contains, Allocate, Free,
NewBitmapAllocator) are equal to the hand-written model (Model/Alloc6.lean over Model/Bits.lean and
Model/IPCalc.lean) that the allocator theorems (Proofs/Alloc6.lean, Props/C04–C07) are about.

The form of the statements (generated function = embedding of the model function, first fit as the
model's `choice`) is described in DESIGN.md §1.5b.  Here the generated side keeps, beyond the model:
the mask of the allocated net.IPNet (also next to an error), which error wraps which, the `Loc` of
ErrDoubleFree; the `Gen4.of…` functions are the embeddings.

Domains.  The model's functions take 16-byte addresses (`Addr`) where the code takes a net.IP; the
generated side's `Option Addr` is `some x` for exactly the 16-byte slices (IPv4-mapped or not), and
the theorems about toIndex, contains, Free and NewBitmapAllocator are stated at `some x` /
`⟨some x, ones, 128⟩`; what the generated functions do at the other values is stated next to them.
Allocate needs no hypothesis at all.  NewBitmapAllocator needs the two
numbers of the pool to be Go ints (`GEN_a6_new_eq`, with a witness that it fails without).

`contains` is not translated statement by statement: the translator recognises its exact shape and
maps it to the vocabulary item `containsIP` (see gen4.go); `GEN_a6_contains_eq` says what that is.
-/
import CoreDhcp.Generated.Alloc6
import CoreDhcp.Proofs.Alloc6
namespace CoreDhcp
open GenA6 (Out Err IPNet)

/-- an error of allocators.Offset / AddPrefixes as the Go error value -/
def Gen4.ofCalc (e : CalcErr) : Option Err := some (.calc e)

/-- `toIndex` returns `0` and the wrapped error next to an error of Offset -/
def Gen4.ofIndex : Except CalcErr Nat → Nat × Option Err
  | .ok i => (i, none)
  | .error e => (0, some (.errIndex (Gen4.ofCalc e)))

/-- `toPrefix` returns what AddPrefixes returns: `net.IP{}` (none) next to an error -/
def Gen4.ofPrefix : Except CalcErr Addr → Option Addr × Option Err
  | .ok x => (some x, none)
  | .error e => (none, Gen4.ofCalc e)

theorem GEN_a6_toIndex_eq (a : A6) (x : Addr) :
    GenA6.toIndex a (some x) = .ret (Gen4.ofIndex (a.toIndex x)) := by
  unfold GenA6.toIndex A6.toIndex GenA6.offsetGo
  simp only []
  cases offset x a.pool.base a.pool.page <;> rfl

/-- outside the model's domain: a net.IP that is not 16 bytes long -/
theorem GEN_a6_toIndex_none (a : A6) :
    GenA6.toIndex a none =
      .outside "allocators.Offset/AddPrefixes of a net.IP that is not 16 bytes long" := rfl

/-- the recognised method `contains` is the model's membership test on every 16-byte address -/
theorem GEN_a6_contains_eq (a : A6) (x : Addr) : GenA6.contains a (some x) = a.pool.contains x := rfl

/-- `contains` is false on every net.IP that is not 16 bytes long (its first length guard) -/
theorem GEN_a6_contains_none (a : A6) : GenA6.contains a none = false := rfl

theorem GEN_a6_toPrefix_eq (a : A6) (i : Nat) :
    GenA6.toPrefix a i = .ret (Gen4.ofPrefix (a.toPrefix i)) := by
  unfold GenA6.toPrefix A6.toPrefix GenA6.addPrefixesGo
  rw [BitVec.ofInt_natCast]
  cases addPrefixes a.pool.base (BitVec.ofNat 64 i) (BitVec.ofNat 64 a.pool.page) <;> rfl

/-- `toPrefix` does not look at the bitmap (it is called after `Set`). -/
theorem Gen4.toPrefix_bm (a : A6) (b : Bits) (i : Nat) :
    GenA6.toPrefix { a with bm := b } i = GenA6.toPrefix a i := rfl

def Gen4.ofNew : Except NewErr A6 → Option A6 × Option Err
  | .ok a => (some a, none)
  | .error .tooSmall => (none, some .errNewSmall)
  | .error .tooLarge => (none, some .errNewLarge)

/-- the pool as the net.IPNet `NewBitmapAllocator` is given: a 16-byte IP, a 128-bit prefix mask -/
def Gen4.poolNet (p : Pool6) : Hint6 := ⟨some p.base, p.poolLen, 128⟩

theorem Gen4.wrapInt_eq (i : Int) (h1 : -2^63 ≤ i) (h2 : i < 2^63) : GenA6.wrapInt i = i := by
  unfold GenA6.wrapInt
  rw [BitVec.toInt_ofInt]
  exact Int.bmod_eq_of_le h1 h2

theorem Gen4.shl_eq (n : Nat) (h : n < 64) : GenA6.wrapUint (1 <<< GenA6.uintOfInt (n : Int)) = 2^n := by
  have hn : n % 2^64 = n := Nat.mod_eq_of_lt (by omega)
  unfold GenA6.wrapUint GenA6.uintOfInt
  rw [BitVec.ofInt_natCast, BitVec.toNat_ofNat, hn, Nat.one_shiftLeft]
  exact Nat.mod_eq_of_lt (Nat.pow_lt_pow_right (by decide) h)

/-- Hypothesis: the two numbers are Go ints (`page` is one, `poolLen` comes from
`Mask.Size()`); the code computes `size - poolSize` in 64 bits, the model in ℕ. -/
theorem GEN_a6_new_eq (p : Pool6) (h : p.page < 2^63 ∧ p.poolLen ≤ 2^63) :
    GenA6.newBitmapAllocator (Gen4.poolNet p) p.page = .ret (Gen4.ofNew (A6.new p)) := by
  obtain ⟨hp, hl⟩ := h
  unfold GenA6.newBitmapAllocator A6.new GenA6.maskSize Gen4.poolNet
  dsimp only
  rw [Gen4.wrapInt_eq _ (by omega) (by omega)]
  by_cases h1 : p.page < p.poolLen
  · rw [if_pos h1, if_pos (Int.sub_neg_of_lt (Int.ofNat_lt.2 h1))]
    rfl
  · -- from here on the difference is a natural number `d`, in the code and in the model
    obtain ⟨d, hd, hd'⟩ : ∃ d : Nat, (p.page : Int) - p.poolLen = d ∧ p.page - p.poolLen = d :=
      ⟨p.page - p.poolLen, (Int.natCast_sub (Nat.le_of_not_lt h1)).symm, rfl⟩
    rw [if_neg h1, hd, hd', if_neg (Int.not_lt.2 (Int.natCast_nonneg d))]
    by_cases h2 : d ≥ 64
    · rw [if_pos h2, if_pos (by omega)]
      rfl
    · have hc : 2^d ≤ GenA6.bitsetCap := by
        have : 2^d < 2^64 := Nat.pow_lt_pow_right (by decide) (by omega)
        unfold GenA6.bitsetCap
        omega
      -- the code has the same text on both sides of `size >= 32`
      rw [if_neg h2, if_neg (by omega), Gen4.shl_eq d (Nat.lt_of_not_le h2), ite_self,
        if_neg (fun hn => hn hc)]
      unfold GenA6.mkAllocator
      dsimp only
      rw [if_pos ⟨rfl, Int.natCast_nonneg _⟩, Int.toNat_natCast]
      rfl

/-- the hypothesis of `GEN_a6_new_eq` is needed: for poolLen = 2^64 (not a Go int) and page = 0 the
64-bit difference is 0 and the code builds a one-block allocator; the model reports `tooSmall`. -/
theorem GEN_a6_new_outside_domain :
    let p : Pool6 := ⟨⟨0#64, 0#64⟩, 2^64, 0⟩
    GenA6.newBitmapAllocator (Gen4.poolNet p) p.page = .ret (some ⟨p, Bits.new 1⟩, none) ∧
      A6.new p = .error .tooSmall := by
  constructor
  · have hw : GenA6.wrapInt (((0 : Nat) : Int) - ((2^64 : Nat) : Int)) = 0 := by decide
    have hs : GenA6.wrapUint (1 <<< GenA6.uintOfInt 0) = 1 := by decide
    have hc : (1 : Nat) ≤ GenA6.bitsetCap := by decide
    simp only [GenA6.newBitmapAllocator, Gen4.poolNet, GenA6.maskSize, hw, hs, hc]
    rfl
  · simp [A6.new]

/-- a pool whose IP is not 16 bytes long or whose mask is not a 128-bit prefix mask never gives an
allocator on the generated side: it ends with an error or `.outside` (the Go code builds one, whose
`contains` is always false; the record `A6` cannot hold it). -/
theorem GEN_a6_new_other (n : Hint6) (s : Int) (h : n.ip = none ∨ n.bits ≠ 128) (a : A6) :
    GenA6.newBitmapAllocator n s ≠ .ret (some a, none) := by
  have hm : ∀ b, GenA6.mkAllocator n s b = none := by
    intro b
    unfold GenA6.mkAllocator
    cases hip : n.ip with
    | none => rfl
    | some x =>
      rcases h with h | h
      · rw [hip] at h
        cases h
      · simp only [h, false_and, if_false]
  -- every branch returns an error next to `none`, or leaves the vocabulary
  have e1 : ∀ e, (Out.ret (none, some e) : Out (Option A6 × Option Err)) ≠ .ret (some a, none) :=
    nofun
  have e2 : ∀ m, (Out.outside m : Out (Option A6 × Option Err)) ≠ .ret (some a, none) := nofun
  have ite_ne : ∀ (c : Prop) [Decidable c] (x y : Out (Option A6 × Option Err)),
      x ≠ .ret (some a, none) → y ≠ .ret (some a, none) → (if c then x else y) ≠ .ret (some a, none) :=
    fun c _ x y hx hy => by split <;> assumption
  unfold GenA6.newBitmapAllocator
  simp only [hm]
  -- size < 0, size ≥ 64, then the two copies (size ≥ 32 or not) of: over capacity, else no allocator
  refine ite_ne _ _ _ (e1 _) ?_
  refine ite_ne _ _ _ (e1 _) ?_
  refine ite_ne _ _ _ ?_ ?_
  · exact ite_ne _ _ _ (e1 _) (e2 _)
  · exact ite_ne _ _ _ (e1 _) (e2 _)

/-- `Free(n)`: which error "not found" is, and the `Loc` of ErrDoubleFree -/
def Gen4.ofFRes (a : A6) (n : Hint6) (m : Addr) : Except FErr Unit → Option Err
  | .ok _ => none
  | .error .doubleFree => some (.errDoubleFree n)
  | .error .notFound =>
    if a.pool.contains m then some (.errNotFound (Gen4.ofIndex (a.toIndex m)).2) else some .errOutside

/-- For a prefix with a 16-byte address and a 128-bit prefix mask (the model's arguments). -/
theorem GEN_a6_free_eq (a : A6) (ip : Addr) (ones : Nat) :
    GenA6.free a ⟨some ip, ones, 128⟩ =
      ((a.free ip ones).1,
       .ret (Gen4.ofFRes a ⟨some ip, ones, 128⟩ (maskAddr ip ones) (a.free ip ones).2)) := by
  rw [A6.free_eq]
  unfold GenA6.free GenA6.ipMask GenA6.contains
  simp only [if_true]
  generalize maskAddr ip ones = m
  cases hc : a.pool.contains m
  · simp only [GenA6.containsIP, hc, Bool.not_false, if_true, Gen4.ofFRes, Bool.false_eq_true,
      if_false]
  · simp only [GenA6.containsIP, hc, Bool.not_true, Bool.false_eq_true, if_false,
      GEN_a6_toIndex_eq]
    cases hi : a.toIndex m with
    | error e =>
      simp only [Gen4.ofIndex, Gen4.ofCalc, ne_eq, reduceCtorEq, not_false_eq_true, if_true,
        Gen4.ofFRes, hc, hi]
    | ok i =>
      cases ht : a.bm.test i
      · simp only [Gen4.ofIndex, ne_eq, not_true_eq_false, if_false, ht, Bool.not_false, if_true,
          Gen4.ofFRes]
      · simp only [Gen4.ofIndex, ne_eq, not_true_eq_false, if_false, ht, Bool.not_true,
          Bool.false_eq_true, Gen4.ofFRes]

/-- every prefix whose `IP.Mask(Mask)` is not 16 bytes long (IP not 16 bytes long; or a prefix mask
that is not 128 bits long) is "outside of the pool": the length guard of `contains`. -/
theorem GEN_a6_free_other (a : A6) (n : Hint6) (h : n.ip = none ∨ (n.bits ≠ 128 ∧ n.bits ≠ 0)) :
    GenA6.free a n = (a, .ret (some .errOutside)) := by
  have hm : GenA6.ipMask n = some none := by
    unfold GenA6.ipMask
    cases hip : n.ip with
    | none => rfl
    | some x =>
      rcases h with h | h
      · rw [hip] at h
        cases h
      · simp only [if_neg h.1, if_neg h.2]
  unfold GenA6.free
  simp only [hm, GenA6.contains, GenA6.containsIP, Bool.not_false, if_true]

/-- the one case the vocabulary has no meaning for: a 16-byte IP with a mask whose `Size()` is
(0, 0) (a nil mask, or a 128-bit mask that is not a prefix mask); this unit says nothing about
what `Free` does with it. -/
theorem GEN_a6_free_outside (a : A6) (x : Addr) (ones : Nat) :
    GenA6.free a ⟨some x, ones, 0⟩ =
      (a, .outside "x.IP.Mask(x.Mask) of a 16-byte IP with a mask whose Size() is (0, 0)") := rfl

theorem Gen4.reqSize_eq (a : A6) (h : Hint6) :
    (if (h.ones : Int) < (a.pool.page : Int) ∨ (h.bits : Int) ≠ 128 then (a.pool.page : Int)
      else (h.ones : Int)) = ((a.reqSize h : Nat) : Int) := by
  unfold A6.reqSize
  rw [apply_ite (Nat.cast : Nat → Int)]
  -- the same test, on the casts
  have c : ((h.ones : Int) < a.pool.page ∨ (h.bits : Int) ≠ 128) ↔
      (h.ones < a.pool.page ∨ h.bits ≠ 128) :=
    or_congr Int.ofNat_lt (not_congr (Int.natCast_inj (n := 128)))
  exact ite_congr (propext c) (fun _ => rfl) (fun _ => rfl)

/-- what `Allocate` does when the hint path is not taken: first fit, `Clear` again if `toPrefix`
fails -/
def Gen4.tail (a : A6) (len : Int) : A6 × Out (IPNet × Option Err) :=
  match a.bm.nextClear with
  | none => (a, .ret (⟨none, some (len, 128)⟩, some .errNoAddrAvail))
  | some c =>
    match a.toPrefix c with
    | .ok ip => ({ a with bm := a.bm.set c }, .ret (⟨some ip, some (len, 128)⟩, none))
    | .error e => ({ a with bm := (a.bm.set c).clear c },
        .ret (⟨none, some (len, 128)⟩, some (.errBug (Gen4.ofCalc e))))

theorem Gen4.model_toPrefix_bm (a : A6) (b : Bits) (i : Nat) :
    A6.toPrefix { a with bm := b } i = a.toPrefix i := rfl

theorem Gen4.allocate_noip (a : A6) (h : Hint6) (hip : h.ip = none) :
    GenA6.allocate a h = Gen4.tail a (a.reqSize h) := by
  unfold GenA6.allocate GenA6.maskSize GenA6.contains Gen4.tail GenA6.nextClear0
  rw [hip]
  dsimp only [GenA6.containsIP]
  rw [Gen4.reqSize_eq]
  -- the generated text reads `NextClear`'s pair and tests the error of `toPrefix`; `tail` matches on both
  cases a.bm.nextClear with
  | none => rfl
  | some c =>
    dsimp only
    rw [GEN_a6_toPrefix_eq, Gen4.model_toPrefix_bm]
    cases a.toPrefix c with
    | ok ip => rfl
    | error e => rfl

theorem Gen4.allocate_tail (a : A6) (h : Hint6) (hn : a.hintIdx h = none) :
    GenA6.allocate a h = Gen4.tail a (a.reqSize h) := by
  -- a hint that is not honoured might as well carry no IP
  rw [show a.reqSize h = a.reqSize { h with ip := none } from rfl, ← Gen4.allocate_noip _ _ rfl]
  unfold GenA6.allocate GenA6.maskSize GenA6.contains GenA6.containsIP
  cases hip : h.ip with
  | none => rfl
  | some x =>
    dsimp only
    by_cases hc : a.pool.contains x = true
    · rw [if_pos hc, GEN_a6_toIndex_eq]
      cases hi : a.toIndex x with
      | error e => rfl
      | ok i =>
        cases ht : a.bm.test i
        · have := (a.hintIdx_eq_some_iff h i).2 ⟨x, hip, hc, hi, ht⟩
          rw [hn] at this
          cases this
        · dsimp only [Gen4.ofIndex]
          rw [ht]
          rfl
    · rw [if_neg hc]
      rfl

theorem Gen4.allocate_hint (a : A6) (h : Hint6) (i : Nat) (hn : a.hintIdx h = some i) :
    GenA6.allocate a h =
      ({ a with bm := a.bm.set i },
       .ret (⟨(Gen4.ofPrefix (a.toPrefix i)).1, some (a.reqSize h, 128)⟩, (Gen4.ofPrefix (a.toPrefix i)).2)) := by
  obtain ⟨x, hx, hc, hi, ht⟩ := (a.hintIdx_eq_some_iff h i).1 hn
  unfold GenA6.allocate GenA6.maskSize
  simp only [Gen4.reqSize_eq, hx, GenA6.contains, GenA6.containsIP, hc, if_true,
    GEN_a6_toIndex_eq, hi, Gen4.ofIndex, ht, Bool.not_false, and_self, GEN_a6_toPrefix_eq,
    Gen4.model_toPrefix_bm]

def Gen4.prefixErr (a : A6) (i : Nat) : Option Err := (Gen4.ofPrefix (a.toPrefix i)).2

/-- `Allocate`: the mask is `net.CIDRMask(reqSize, 128)` also next to an error, where the IP is
`net.IP{}`; the error of `toPrefix` is wrapped ("BUG") after first fit, returned as it is on the
hint path -/
def Gen4.ofARes (a : A6) (h : Hint6) : Except AErr Block → Out (IPNet × Option Err)
  | .ok b => .ret (⟨some b.base, some ((b.len : Int), 128)⟩, none)
  | .error .noaddr => .ret (⟨none, some ((a.reqSize h : Int), 128)⟩, some .errNoAddrAvail)
  | .error .bug =>
    .ret (⟨none, some ((a.reqSize h : Int), 128)⟩,
      some (.errBug (Gen4.prefixErr a (a.firstFit.getD 0))))
  | .error .hintPrefix =>
    .ret (⟨none, some ((a.reqSize h : Int), 128)⟩, Gen4.prefixErr a ((a.hintIdx h).getD 0))

theorem GEN_a6_allocate_eq (a : A6) (h : Hint6) :
    (a.allocate h a.firstFit).map (fun p => (p.1, Gen4.ofARes a h p.2))
      = some (GenA6.allocate a h) := by
  unfold A6.allocate
  dsimp only
  cases hh : a.hintIdx h with
  | some i =>
    rw [Gen4.allocate_hint a h i hh]
    dsimp only
    cases hp : a.toPrefix i with
    | ok ip => rfl
    | error e =>
      simp only [Option.map_some, Gen4.ofARes, Gen4.prefixErr, hh, Option.getD_some, hp]
      rfl
  | none =>
    rw [Gen4.allocate_tail a h hh]
    unfold Gen4.tail A6.firstFit
    dsimp only
    cases hn : a.bm.nextClear with
    | none =>
      dsimp only
      rw [if_pos (Bits.nextClear_none a.bm hn)]
      rfl
    | some c =>
      obtain ⟨h1, h2⟩ := Bits.nextClear_some a.bm c hn
      dsimp only
      rw [if_pos ⟨h1, h2 ▸ rfl⟩]
      cases hp : a.toPrefix c with
      | ok ip => rfl
      | error e =>
        simp only [Option.map_some, Gen4.ofARes, Gen4.prefixErr, A6.firstFit, hn, Option.getD_some,
          hp, Gen4.ofPrefix, Bits.set_clear_of_not_test _ _ h1 h2]

/-- the same, read from the model's side: with the first-fit choice the model's answer is `some`,
namely the generated function's state and a result the generated one is the embedding of. -/
theorem GEN_a6_allocate_eq' (a : A6) (h : Hint6) :
    ∃ r, a.allocate h a.firstFit = some ((GenA6.allocate a h).1, r) ∧
      (GenA6.allocate a h).2 = Gen4.ofARes a h r := by
  obtain ⟨p, hm, hg⟩ := Option.map_eq_some_iff.1 (GEN_a6_allocate_eq a h)
  exact ⟨p.2, by rw [hm, ← hg], by rw [← hg]⟩

end CoreDhcp
