/-
Stateful plugins in the composed server (Model/ServerState.lean): a history of datagrams through the
whole DHCPv4 server projects onto a history of the `range` plugin, so C02 — proved for the plugin's
state machine over its own histories (Props/C02.lean) — holds for the server over histories of datagrams,
down to the addresses on the wire. Then the same for DHCPv6 and `prefix`: C08 and C09 (Props/C08.lean,
Props/C09.lean) for the server over histories of datagrams.
-/
import CoreDhcp.Proofs.ServerState
import CoreDhcp.Props.System
import CoreDhcp.Props.C02
import CoreDhcp.Props.C08
import CoreDhcp.Props.C09
namespace CoreDhcp
open Sys
open Plug (lookup)

/-- Along any run of the stateful server over any history of datagrams, the sequence of range states is a run of
the range state machine (`RState.run`, the one `C02_holds`/`C03_holds` speak about) on the sub-history of the
requests that reached `range`, with the allocator choices of exactly those datagrams; the events it produces are
the events recorded in the trace, and its final state is the server's final range state. -/
theorem SYSST_range_steps_are_handles (loadKey : Mac → Option Mac) (order : List (Mac × Rec) → List (Mac × Rec))
    (bound : Nat) (oob : Option Nat) (chain : List Elem4) (s0 : RState) (dgs : List Dg4)
    (tr : List Step4) (z : St4)
    (h : run4 bound oob chain ⟨some s0⟩ dgs = some (tr, z)) :
    ∃ z', z.range = some z' ∧ tr.length = dgs.length ∧
      RState.run loadKey order s0 (projOps tr) (projChoices dgs tr) = some (projEvs tr, z') := by
  induction dgs generalizing s0 tr with
  | nil => cases h; exact ⟨s0, rfl, rfl, rfl⟩
  | cons d ds ih =>
    obtain ⟨r, tr', hs, hr, rfl⟩ := run4_cons_some bound oob chain _ d ds tr z h
    rcases step4_handle bound oob chain s0 d.now d.choice d.input r hs with ⟨hev, hst⟩ | ⟨req, rs', rr, _, hh, hst, hev⟩
    · rw [hst] at hr
      obtain ⟨z', hz, hl, hrun⟩ := ih s0 tr' hr
      refine ⟨z', hz, congrArg (· + 1) hl, ?_⟩
      rw [projOps_cons_none r tr' hev, projChoices_cons_none d ds r tr' hev, projEvs_cons_none r tr' hev]
      exact hrun
    · rw [hst] at hr
      obtain ⟨z', hz, hl, hrun⟩ := ih rs' tr' hr
      refine ⟨z', hz, congrArg (· + 1) hl, ?_⟩
      rw [projOps_cons_some r tr' _ hev, projChoices_cons_some d ds r tr' _ hev, projEvs_cons_some r tr' _ hev,
        opOfEv, RState.run, hh]
      dsimp only
      rw [hrun]
      rfl

/-- A datagram that does not reach `range` (no event recorded: it did not parse, `HandleMsg4` dropped it before the
chain, or a plugin before `range` ended the chain) leaves the lease state unchanged, whatever the allocator choice:
junk traffic cannot consume addresses. -/
theorem SYSST_unreached_keeps_state (bound : Nat) (oob : Option Nat) (chain : List Elem4) (st : St4) (now : Int)
    (choice : Option Nat) (input : Option Sys.Req4) (r : Step4)
    (h : step4 bound oob chain st now choice input = some r) (hev : r.ev = none) : r.st = st := by
  cases st with
  | mk range =>
    cases range with
    | none => cases (step4_idle bound oob chain _ now choice input (.inl rfl)).symm.trans h; rfl
    | some rs =>
      rcases step4_handle bound oob chain rs now choice input r h with ⟨_, hst⟩ | ⟨_, _, _, _, _, _, hev'⟩
      · exact hst
      · rw [hev] at hev'; cases hev'

/-- … and these never reach it: a datagram that does not parse, and one `HandleMsg4` drops before the
chain (not a BOOTREQUEST, or neither DISCOVER nor REQUEST). They are dropped and consume nothing,
whatever the allocator choice. -/
theorem SYSST_junk_keeps_state (bound : Nat) (oob : Option Nat) (chain : List Elem4) (st : St4) (now : Int)
    (choice : Option Nat) (input : Option Sys.Req4) (r : Step4)
    (hjunk : input = none ∨ ∃ req, input = some req ∧ Sys.stub4 req = none)
    (h : step4 bound oob chain st now choice input = some r) :
    r.st = st ∧ r.ev = none ∧ r.out = .drop := by
  cases st with
  | mk range =>
    rcases hjunk with rfl | ⟨req, rfl, hstub⟩
    · cases (step4_idle bound oob chain _ now choice none (.inr rfl)).symm.trans h
      exact ⟨rfl, rfl, rfl⟩
    · cases range with
      | none =>
        cases (step4_idle bound oob chain _ now choice (some req) (.inl rfl)).symm.trans h
        exact ⟨rfl, rfl, serve4_stub_none bound oob chain req hstub⟩
      | some rs =>
        obtain ⟨rs', rr, _, hout, hc⟩ := step4_some bound oob chain rs now choice req r h
        have hd : r.out = .drop := by rw [hout, serve4_stub_none bound oob _ req hstub]
        rcases hc with ⟨hre, _, _⟩ | ⟨_, h2, h3⟩
        · rw [reached4, hstub] at hre
          cases hre
        · exact ⟨h2, h3, hd⟩

/-- the run is never stuck: the choice the code makes (first fit) is admissible in every state -/
theorem SYSST_progress (bound : Nat) (oob : Option Nat) (chain : List Elem4) (rs : RState) (now : Int)
    (input : Option Sys.Req4) :
    (step4 bound oob chain ⟨some rs⟩ now rs.alloc.firstFit input).isSome = true := by
  cases input with
  | none => rfl
  | some req =>
    have h := C02_progress rs req.chaddr now
    cases hh : rs.handle req.chaddr now rs.alloc.firstFit with
    | none => rw [hh] at h; cases h
    | some p =>
      simp only [step4, hh]
      split <;> rfl

/-- The chain has one `range`, before it only plugins that never end the chain, no second `range` behind it: whenever
the stateful server sends a reply, `range` was reached, it answered with an address `ip` and a lease time, the step is
recorded as that event (so the range state advanced by exactly that `RState.handle`), the reply carries that lease
time in option 51 (`SYS_C02_lease4`) and — when no `file` stands behind `range` — that address as `yiaddr`
(`SYS_C02_addr4`), to that client (`chaddr` echoed). -/
theorem SYSST_reply_is_event (bound : Nat) (oob : Option Nat) (pre post : List Elem4) (x : Option (BitVec 32 × Nat))
    (hpre : pre.all neverStops4 = true) (hpost : post.all (fun e => !isLease e) = true)
    (rs : RState) (now : Int) (choice : Option Nat) (req : Sys.Req4) (r : Step4)
    (h : step4 bound oob (pre ++ .lease x :: post) ⟨some rs⟩ now choice (some req) = some r)
    (resp : Sys.Resp4) (peer : BitVec 32) (port : Nat) (ifidx : Option Nat) (l2 : Bool)
    (hsend : r.out = .send resp peer port ifidx l2) :
    ∃ ip o51 rs', rs.handle req.chaddr now choice = some (rs', .reply ip o51) ∧ r.st = ⟨some rs'⟩ ∧
      r.ev = some (.req req.chaddr now (.reply ip o51) (rs'.db.filter (fun y => y.mac == req.chaddr))) ∧
      resp.chaddr = req.chaddr ∧
      lookup 51 resp.opts = some (Plug.be 4 o51) ∧
      (post.all (fun e => match e with | .file _ => false | _ => true) = true → resp.yiaddr = be4 ip) := by
  obtain ⟨rs', rr, hh, hout, hc⟩ := step4_some bound oob _ rs now choice req r h
  rw [inst4_split _ x pre post hpre hpost] at hout hc
  rw [hout] at hsend
  obtain ⟨r0, h0, hchain⟩ := serve4_send bound oob _ req resp peer port ifidx l2 hsend
  have hre := reached4_of_pre (leaseOut rr) x pre post hpre req r0 h0
  rcases hc with ⟨_, hst, hev⟩ | ⟨hnr, _, _⟩
  · cases rr with
    | reply ip o51 =>
      refine ⟨ip, o51, rs', hh, hst, hev, ?_, ?_, ?_⟩
      · exact (congrArg (·.chaddr) (chain4_put _ req r0 resp hchain)).trans (stub4_sys_some req r0 h0).2
      · exact SYS_C02_lease4 bound oob pre post ip o51 req hpre hpost resp peer port ifidx l2 hsend
      · intro hfile
        exact SYS_C02_addr4 bound oob pre post ip o51 req hpre hpost hfile resp peer port ifidx l2 hsend
    | drop | panic =>
      -- `leaseOut` of both is `none`: `range` hands no response on
      have hd := serve4_drop bound oob pre post (.lease none) req hpre (fun _ => rfl)
      exact absurd (hd.symm.trans hsend) nofun
  · rw [hre] at hnr; cases hnr

/-- C02 at server level, monitor form. Any chain (wherever `range` stands in it), `range` set up on an empty lease
table as in `C02_holds`, any history of datagrams (parsed or not, any fields and options, any arrival times), any
listener parameters, any admissible sequence of allocator choices: the events of `range` along the run (the requests
that reached it, with what it answered) satisfy the C02 monitor of Spec/Range.lean — every answer inside the range with
the configured lease time, a client always given the address it was first given, no address given to two clients, a
request unanswered only when the client is unknown and every address is bound. -/
theorem SYSST_C02_history (start stop : BitVec 32) (lease : Int)
    (loadKey : Mac → Option Mac) (order : List (Mac × Rec) → List (Mac × Rec))
    (hkey : ∀ m, loadKey m = some m) (hperm : ∀ l, (order l).Perm l)
    (s0 : RState) (hs0 : RState.setup start stop lease [] loadKey order = .ok s0)
    (bound : Nat) (oob : Option Nat) (chain : List Elem4) (dgs : List Dg4) (tr : List Step4) (z : St4)
    (h : run4 bound oob chain ⟨some s0⟩ dgs = some (tr, z)) :
    C02.holds ⟨start, stop, lease⟩ (projEvs tr) = true := by
  obtain ⟨z', _, _, hrun⟩ := SYSST_range_steps_are_handles loadKey order bound oob chain s0 dgs tr z h
  exact C02_holds start stop lease loadKey order hkey hperm s0 hs0 _ _ _ z' hrun

/-- C02 at server level, spelled out. Same hypotheses as `SYSST_C02_history`. Take any two steps of the trace in which
`range` answered (events `.req mac now (.reply ip l) _`; under the chain hypotheses of `SYSST_reply_is_event` every
step that sent a reply is one of these, and the reply carries `ip` and `l`): the address is inside `[start, stop]`,
the lease time is the configured one, and the two addresses are equal iff the two clients are — a client is always
given the address it was first given, and two different clients never get the same address. -/
theorem SYSST_C02_history_explicit (start stop : BitVec 32) (lease : Int)
    (loadKey : Mac → Option Mac) (order : List (Mac × Rec) → List (Mac × Rec))
    (hkey : ∀ m, loadKey m = some m) (hperm : ∀ l, (order l).Perm l)
    (s0 : RState) (hs0 : RState.setup start stop lease [] loadKey order = .ok s0)
    (bound : Nat) (oob : Option Nat) (chain : List Elem4) (dgs : List Dg4) (tr : List Step4) (z : St4)
    (h : run4 bound oob chain ⟨some s0⟩ dgs = some (tr, z))
    (r1 r2 : Step4) (h1 : r1 ∈ tr) (h2 : r2 ∈ tr)
    (mac1 mac2 : Mac) (now1 now2 : Int) (ip1 ip2 : BitVec 32) (l1 l2 : Nat) (st1 st2 : List Row)
    (e1 : r1.ev = some (.req mac1 now1 (.reply ip1 l1) st1))
    (e2 : r2.ev = some (.req mac2 now2 (.reply ip2 l2) st2)) :
    start.toNat ≤ ip1.toNat ∧ ip1.toNat ≤ stop.toNat ∧ l1 = leaseOpt lease ∧ (mac1 = mac2 ↔ ip1 = ip2) := by
  have hmon := SYSST_C02_history start stop lease loadKey order hkey hperm s0 hs0 bound oob chain dgs tr z h
  obtain ⟨B, hB, _, hall⟩ := RMon.c02_explicit ⟨start, stop, lease⟩ (projEvs tr) [] List.Pairwise.nil hmon
  have m1 : REv.req mac1 now1 (.reply ip1 l1) st1 ∈ projEvs tr := List.mem_filterMap.mpr ⟨r1, h1, e1⟩
  have m2 : REv.req mac2 now2 (.reply ip2 l2) st2 ∈ projEvs tr := List.mem_filterMap.mpr ⟨r2, h2, e2⟩
  obtain ⟨b1, lo, hi, hl⟩ := hall _ _ _ _ _ m1
  obtain ⟨b2, _, _, _⟩ := hall _ _ _ _ _ m2
  exact ⟨lo, hi, hl, hB.iff b1 b2⟩

/-- every reply sent along a run is an event of `range` (`SYSST_reply_is_event` at every step of a history) -/
theorem SYSST_sent_replies_are_events (bound : Nat) (oob : Option Nat) (pre post : List Elem4) (x : Option (BitVec 32 × Nat))
    (hpre : pre.all neverStops4 = true) (hpost : post.all (fun e => !isLease e) = true)
    (s0 : RState) (dgs : List Dg4) (tr : List Step4) (z : St4)
    (h : run4 bound oob (pre ++ .lease x :: post) ⟨some s0⟩ dgs = some (tr, z))
    (r : Step4) (hr : r ∈ tr)
    (resp : Sys.Resp4) (peer : BitVec 32) (port : Nat) (ifidx : Option Nat) (l2 : Bool)
    (hsend : r.out = .send resp peer port ifidx l2) :
    ∃ now ip o51 stored, r.ev = some (.req resp.chaddr now (.reply ip o51) stored) ∧
      lookup 51 resp.opts = some (Plug.be 4 o51) ∧
      (post.all (fun e => match e with | .file _ => false | _ => true) = true → resp.yiaddr = be4 ip) := by
  obtain ⟨rs, d, hs⟩ := run4_mem_step bound oob _ s0 dgs tr z h r hr
  cases hin : d.input with
  | none =>
    rw [hin] at hs
    cases hs
    cases hsend
  | some req =>
    rw [hin] at hs
    obtain ⟨ip, o51, rs', _, _, hev, hch, h51, hyi⟩ :=
      SYSST_reply_is_event bound oob pre post x hpre hpost rs d.now d.choice req r hs resp peer port ifidx l2 hsend
    exact ⟨d.now, ip, o51, _, hch ▸ hev, h51, hyi⟩

/-- C02 for the server on the wire. The chain has one `range` set up on an empty lease
table for `[start, stop]` and `lease`; before it stand only plugins that never end the chain, behind it no second `range` and
no `file`. For every history of datagrams (parsed or not, any fields and options, any arrival times), every listener
parameters, every admissible sequence of allocator choices, any two replies the server sent along the history:
the address (`yiaddr`) is an address of `[start, stop]`, option 51 is the configured lease time, and the two replies carry
the same address iff they go to the same client hardware address — a client keeps the address it was first given, and
no address is given to two clients. -/
theorem SYSST_C02_wire (start stop : BitVec 32) (lease : Int)
    (loadKey : Mac → Option Mac) (order : List (Mac × Rec) → List (Mac × Rec))
    (hkey : ∀ m, loadKey m = some m) (hperm : ∀ l, (order l).Perm l)
    (s0 : RState) (hs0 : RState.setup start stop lease [] loadKey order = .ok s0)
    (bound : Nat) (oob : Option Nat) (pre post : List Elem4) (x : Option (BitVec 32 × Nat))
    (hpre : pre.all neverStops4 = true) (hpost : post.all (fun e => !isLease e) = true)
    (hfile : post.all (fun e => match e with | .file _ => false | _ => true) = true)
    (dgs : List Dg4) (tr : List Step4) (z : St4)
    (h : run4 bound oob (pre ++ .lease x :: post) ⟨some s0⟩ dgs = some (tr, z))
    (r1 r2 : Step4) (h1 : r1 ∈ tr) (h2 : r2 ∈ tr)
    (resp1 resp2 : Sys.Resp4) (peer1 peer2 : BitVec 32) (port1 port2 : Nat) (if1 if2 : Option Nat) (l21 l22 : Bool)
    (hs1 : r1.out = .send resp1 peer1 port1 if1 l21) (hs2 : r2.out = .send resp2 peer2 port2 if2 l22) :
    (∃ ip, resp1.yiaddr = be4 ip ∧ start.toNat ≤ ip.toNat ∧ ip.toNat ≤ stop.toNat) ∧
    lookup 51 resp1.opts = some (Plug.be 4 (leaseOpt lease)) ∧
    (resp1.chaddr = resp2.chaddr ↔ resp1.yiaddr = resp2.yiaddr) := by
  obtain ⟨now1, ip1, o1, st1, e1, h51, hy1⟩ :=
    SYSST_sent_replies_are_events bound oob pre post x hpre hpost s0 dgs tr z h r1 h1 resp1 peer1 port1 if1 l21 hs1
  obtain ⟨now2, ip2, o2, st2, e2, _, hy2⟩ :=
    SYSST_sent_replies_are_events bound oob pre post x hpre hpost s0 dgs tr z h r2 h2 resp2 peer2 port2 if2 l22 hs2
  obtain ⟨lo, hi, hl, hiff⟩ := SYSST_C02_history_explicit start stop lease loadKey order hkey hperm s0 hs0 bound oob _ dgs tr z h
    r1 r2 h1 h2 _ _ _ _ _ _ _ _ _ _ e1 e2
  refine ⟨⟨ip1, hy1 hfile, lo, hi⟩, by rw [h51, hl], ?_⟩
  rw [hy1 hfile, hy2 hfile, hiff]
  exact ⟨congrArg be4, be4_inj ip1 ip2⟩

/-- `server_id 10.0.0.254`, `range 10.0.0.1 10.0.0.2` (one hour), `router 10.0.0.254` -/
def exChain4 : List Elem4 := [.plug (.serverid [10, 0, 0, 254]), .lease none, .plug (.router [[10, 0, 0, 254]])]

def exDiscover (xid : Nat) (mac : List Nat) : Sys.Req4 :=
  ⟨1, xid, 1, mac, 0, [0,0,0,0], [0,0,0,0], [0,0,0,0], [(53, [1])]⟩

def sentAddr (r : Step4) : Option (List Nat) :=
  match r.out with
  | .send resp _ _ _ _ => some resp.yiaddr
  | _ => none

/-- DISCOVER from A, a datagram that does not parse, a BOOTREPLY (dropped by `HandleMsg4`), a REQUEST from C that
names another server (dropped by `server_id`, before `range`), DISCOVER from B, DISCOVER from A again: A gets
10.0.0.1 both times, B gets 10.0.0.2, the three others get nothing and consume nothing (were C's request to reach
`range`, B would find no address left); the plugin-level history has exactly the three requests that reached `range`. -/
example :
    ∃ s0 tr z, RState.setup 0x0a000001#32 0x0a000002#32 3600000000000 [] some id = .ok s0 ∧
      run4 3 none exChain4 ⟨some s0⟩
        [⟨1000, some 0, some (exDiscover 1 [2,0,0,0,0,0xa])⟩,
         ⟨1500, none, none⟩,
         ⟨1600, some 1, some { exDiscover 2 [2,0,0,0,0,0xd] with op := 2 }⟩,
         ⟨1700, some 1, some { exDiscover 3 [2,0,0,0,0,0xc] with opts := [(53, [3]), (54, [10, 0, 0, 7])] }⟩,
         ⟨2000, some 1, some (exDiscover 4 [2,0,0,0,0,0xb])⟩,
         ⟨3000, none, some (exDiscover 5 [2,0,0,0,0,0xa])⟩] = some (tr, z) ∧
      tr.map sentAddr = [some [10,0,0,1], none, none, none, some [10,0,0,2], some [10,0,0,1]] ∧
      tr.map (fun r => r.ev.isSome) = [true, false, false, false, true, true] ∧
      projOps tr = [.req [2,0,0,0,0,0xa] 1000, .req [2,0,0,0,0,0xb] 2000, .req [2,0,0,0,0,0xa] 3000] ∧
      projChoices [⟨1000, some 0, none⟩, ⟨1500, none, none⟩, ⟨1600, some 1, none⟩, ⟨1700, some 1, none⟩,
        ⟨2000, some 1, none⟩, ⟨3000, none, none⟩] tr = [some 0, some 1, none] ∧
      C02.holds ⟨0x0a000001#32, 0x0a000002#32, 3600000000000⟩ (projEvs tr) = true :=
  ⟨_, _, _, rfl, rfl, by decide, by decide, rfl, by decide, by decide⟩

/-- Along any run of the stateful server, the sequence of `prefix` states is a run of `PState.run` (the one
`C08_holds`/`C09_holds` speak about) on the sub-history of the messages that reached `prefix`, over the same stream of
allocator choices (a datagram that does not reach `prefix` consumes none); its events are the events of the trace, and
the messages are a sub-list of the messages of the datagrams. -/
theorem SYSST_prefix_steps_are_handles (bound : Nat) (oob : Option Nat) (chain : List Elem6) (s0 : PState)
    (dgs : List Dg6) (cs : List (Option Nat)) (tr : List Step6) (z : St6)
    (h : run6 bound oob chain ⟨some s0⟩ dgs cs = some (tr, z)) :
    ∃ z', z.pfx = some z' ∧ PState.run s0 (projOps6 tr) cs = some (projEvs6 tr, z') ∧
      (projOps6 tr).Sublist (dgs.map opOfDg6) := by
  induction dgs generalizing s0 cs tr with
  | nil => cases h; exact ⟨s0, rfl, rfl, List.Sublist.refl _⟩
  | cons d ds ih =>
    obtain ⟨r, tr', hs, hr, rfl⟩ := run6_cons_some bound oob chain _ d ds cs tr z h
    rcases step6_handle bound oob chain s0 d cs r hs with ⟨hev, hst, hcs⟩ | ⟨ps', resp, cs', hh, hst, hcs, hev⟩
    · rw [hst, hcs] at hr
      obtain ⟨z', hz, hrun, hsub⟩ := ih s0 cs tr' hr
      rw [projOps6_cons_none r tr' hev, projEvs6_cons_none r tr' hev]
      exact ⟨z', hz, hrun, List.Sublist.cons _ hsub⟩
    · rw [hst, hcs] at hr
      obtain ⟨z', hz, hrun, hsub⟩ := ih ps' cs' tr' hr
      rw [projOps6_cons_some r tr' _ hev, projEvs6_cons_some r tr' _ hev]
      refine ⟨z', hz, ?_, List.Sublist.cons_cons _ hsub⟩
      rw [opOfEv6, PrefixProof.run_cons]
      dsimp only
      rw [hh]
      dsimp only
      rw [hrun]
      rfl

/-- a datagram that does not reach `prefix` leaves its records and the allocator untouched and consumes no choice -/
theorem SYSST_unreached_keeps_state6 (bound : Nat) (oob : Option Nat) (chain : List Elem6) (st : St6) (d : Dg6)
    (cs : List (Option Nat)) (r : Step6)
    (h : step6 bound oob chain st d cs = some r) (hev : r.ev = none) : r.st = st ∧ r.cs = cs := by
  cases st with
  | mk pfx =>
    cases pfx with
    | none => cases (step6_idle bound oob chain _ d cs (.inl rfl)).symm.trans h; exact ⟨rfl, rfl⟩
    | some ps =>
      rcases step6_handle bound oob chain ps d cs r h with ⟨_, hst, hcs⟩ | ⟨_, _, _, _, _, _, hev'⟩
      · exact ⟨hst, hcs⟩
      · rw [hev] at hev'; cases hev'

/-- One `prefix` in the chain, before it only elements that never end the chain: whenever the stateful server sends a
reply, `prefix` was reached, the step is recorded as the event of that `PState.handleMsg` (so the records advanced by
exactly it), and the IA_PD options of the reply are, in order, the encodings of the IA_PDs it answered
(`SYS_pd_delivered6`; `SYS_pd_roundtrip` reads them back). -/
theorem SYSST_reply_is_event6 (bound : Nat) (oob : Option Nat) (pre post : List Elem6) (x : List PdAns)
    (hpre : pre.all neverStops6 = true) (hone : (pre ++ post).all (fun e => !isPd e) = true)
    (ps : PState) (d : Dg6) (cs : List (Option Nat)) (r : Step6)
    (h : step6 bound oob (pre ++ .pd x :: post) ⟨some ps⟩ d cs = some r)
    (layers : List Layer6) (resp : Sys.Resp6) (ifidx : Option Nat)
    (hsend : r.out = .send layers resp ifidx) :
    ∃ ps' rs cs', ps.handleMsg (opOfDg6 d).client d.iapds d.now cs = some (ps', some rs, cs') ∧
      r.st = ⟨some ps'⟩ ∧ r.cs = cs' ∧ r.ev = some ⟨(opOfDg6 d).client, d.iapds, d.now, d.now, some rs⟩ ∧
      resp.opts.filter (fun o => o.1 == 25) = (pdOf rs).map (fun a => (25, encIAPD a)) := by
  have hpost : post.all (fun e => !isPd e) = true := by
    rw [List.all_append, Bool.and_eq_true] at hone; exact hone.2
  cases hin : d.input with
  | none =>
    cases (step6_idle bound oob _ _ d cs (.inr hin)).symm.trans h
    rw [show d.input = none from hin] at hsend
    cases hsend
  | some pkt =>
    have hcl := opOfDg6_client d pkt hin
    obtain ⟨ps', mr, cs', hh, hout, hc⟩ := step6_some bound oob _ ps d pkt hin cs r h
    rw [inst6_split _ x pre post hpre hpost] at hout hc
    rw [hout] at hsend
    obtain ⟨m, r0, hm, h0, _⟩ := serve6_send bound oob d.src _ pkt layers resp ifidx hsend
    -- the message has a Client-ID, so `prefix` answered with IA_PDs
    obtain ⟨c, hc1, _⟩ := stub6_opts m r0 h0
    have hcid : clientOf pkt = some c := by simp only [clientOf, hm, Option.bind_some, hc1]
    rw [hcid] at hh
    obtain ⟨rs, rfl, _⟩ := handleMsg_iaids ps ps' c d.iapds d.now cs cs' mr hh
    rcases hc with ⟨_, hst, hcs, hev⟩ | ⟨hnr, _, _, _⟩
    · exact ⟨ps', rs, cs', hcl ▸ hcid ▸ hh, hst, hcs, hcl ▸ hev,
        SYS_pd_delivered6 bound oob d.src pre post (pdOf rs) pkt hpre hone layers resp ifidx hsend⟩
    · rw [reached6_of_pre (pdOut (some rs)) x pre post hpre pkt m r0 hm h0] at hnr
      cases hnr

/-- C08 and C09 for the DHCPv6 server over histories of datagrams, monitor form. Any chain with `prefix` anywhere in it,
set up on a well-formed pool; any history of datagrams (any layers, messages, options; IA_PDs with hints the library can
deliver; a clock that does not run backwards), any listener parameters, any admissible stream of allocator choices: the
events of `prefix` along the run — the messages that reached it with what it answered — satisfy the C08 monitor (every
delegated prefix in the pool, aligned, with lifetimes 0 < preferred = valid ≤ 1 h, disjoint from every prefix ever delegated
to another client, every IA_PD answered once under its IAID) and the C09 monitor (a client is returned what it holds) of
Spec/Prefix.lean. -/
theorem SYSST_C08_history (pool : Pool6) (hp : pool.WF) (a : A6) (hnew : A6.new pool = .ok a)
    (bound : Nat) (oob : Option Nat) (chain : List Elem6) (dgs : List Dg6)
    (hwf : dgs.all (fun d => d.iapds.all IAPDReq.wf) = true)
    (hmono : POp.monotone (dgs.map opOfDg6) = true)
    (cs : List (Option Nat)) (tr : List Step6) (z : St6)
    (h : run6 bound oob chain ⟨some ⟨a, []⟩⟩ dgs cs = some (tr, z)) :
    C08.holds pool (projEvs6 tr) = true ∧ C09.holds pool (projEvs6 tr) = true := by
  obtain ⟨z', _, hrun, hsub⟩ := SYSST_prefix_steps_are_handles bound oob chain ⟨a, []⟩ dgs cs tr z h
  have hwf' : (projOps6 tr).all (fun op => op.iapds.all IAPDReq.wf) = true := by
    apply List.all_eq_true.mpr
    intro op hop
    obtain ⟨d, hd, rfl⟩ := List.mem_map.mp (hsub.subset hop)
    exact List.all_eq_true.mp hwf d hd
  have hmono' : POp.monotone (projOps6 tr) = true :=
    (monotone_iff_pairwise _).mpr (((monotone_iff_pairwise _).mp hmono).sublist hsub)
  exact ⟨C08_holds pool hp a hnew _ hwf' hmono' cs _ z' hrun, C09_holds pool hp a hnew _ hwf' hmono' cs _ z' hrun⟩

def sentPd (r : Step6) : Option Plug.Opts :=
  match r.out with
  | .send _ resp _ => some (resp.opts.filter (fun o => o.1 == 25))
  | .drop => none

def exReq6 (xid : Nat) (cid : List Nat) : Sys.Pkt6 := ⟨[], some ⟨3, xid, [(1, cid), (25, [0, 0, 0, 1, 0, 0, 0, 0, 0, 0, 0, 0])]⟩, none⟩

/-- `dns`, `prefix 2001:db8::/60 62`: a REQUEST with one IA_PD from client 1, a message without Client-ID (dropped by
`HandleMsg6`: consumes neither a block nor a choice), a REQUEST from client 2, client 1 again: client 1 is returned the
block it holds, client 2 another one; the plugin-level history has the three messages that reached `prefix`. -/
example :
    ∃ a tr z, A6.new ⟨⟨0x20010db800000000#64, 0#64⟩, 60, 62⟩ = .ok a ∧
      run6 3 none [.plug (.dns [[32, 1, 13, 184, 0, 0, 0, 0, 0, 0, 0, 0, 0, 0, 0, 83]]), .pd []] ⟨some ⟨a, []⟩⟩
        [⟨10, ⟨0x20010db800000000#64, 2#64⟩, some (exReq6 1 [1]), [⟨1, []⟩]⟩,
         ⟨15, ⟨0x20010db800000000#64, 2#64⟩, some ⟨[], some ⟨3, 2, [(25, [])]⟩, none⟩, [⟨1, []⟩]⟩,
         ⟨20, ⟨0x20010db800000000#64, 2#64⟩, some (exReq6 3 [2]), [⟨1, []⟩]⟩,
         ⟨30, ⟨0x20010db800000000#64, 2#64⟩, some (exReq6 4 [1]), [⟨1, []⟩]⟩]
        [some 0, some 1, none] = some (tr, z) ∧
      tr.map (fun r => r.ev.isSome) = [true, false, true, true] ∧
      (tr.map sentPd).map Option.isSome = [true, false, true, true] ∧
      (tr.map sentPd)[0]? = (tr.map sentPd)[3]? ∧ (tr.map sentPd)[0]? ≠ (tr.map sentPd)[2]? ∧
      (projOps6 tr).map (·.client) = [some [1], some [2], some [1]] ∧
      C08.holds ⟨⟨0x20010db800000000#64, 0#64⟩, 60, 62⟩ (projEvs6 tr) = true ∧
      C09.holds ⟨⟨0x20010db800000000#64, 0#64⟩, 60, 62⟩ (projEvs6 tr) = true :=
  ⟨_, _, _, rfl, rfl, by decide, by decide, by decide, by decide, by decide, by decide, by decide⟩

end CoreDhcp
