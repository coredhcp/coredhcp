/-
The whole server on one datagram — `HandleMsg4/6` composed with the models of the configured
built-in plugins (Model/System.lean).

C11, C12 and C15 without a hypothesis about the handlers: for every
chain of option plugins, `server_id`, `file`, `range` (as `.lease`) and `prefix` (as `.pd`), in any
order and with any configuration the models accept, the reply that is sent satisfies the
per-datagram properties; then what a reply carries of what `server_id`, `file`, `range`, `prefix`
and an option plugin put in, depending on where the element stands in the chain.
-/
import CoreDhcp.Proofs.System6
import CoreDhcp.Props.C17
import CoreDhcp.Proofs.Prefix
namespace CoreDhcp
open Sys

/-- C11 for every chain of built-in plugins: what is sent answers a DISCOVER/REQUEST BOOTREQUEST,
echoes xid, htype, chaddr, flags, giaddr, options 82 and 61 and has the right type. -/
theorem SYS_C11 (bound : Nat) (oob : Option Nat) (chain : List Elem4) (input : Option Sys.Req4) :
    C11.holds (input.map absReq4) (absOut4 (serve4 bound oob chain input)) = true := by
  cases input with
  | none => rfl
  | some req =>
    generalize hout : serve4 bound oob chain (some req) = out
    cases out with
    | drop => rfl
    | panicNoIf => rfl
    | send resp peer port ifidx l2 =>
      obtain ⟨r0, h0, hc⟩ := serve4_send bound oob chain req resp peer port ifidx l2 hout
      have hs : CoreDhcp.stub4 (absReq4 req) = some (absResp4 r0) := by rw [stub4_abs, h0]; rfl
      obtain ⟨_, _, e, t⟩ := stub4_some (absReq4 req) (absResp4 r0) hs
      refine C11_send (absReq4 req) (absResp4 r0) (absResp4 resp) peer port ifidx l2 hs ?_
      rw [chain4_abs chain req r0 resp hc]
      exact ⟨e, t⟩

/-- C15 for every chain of built-in plugins: destination, port, interface pinning, link-layer
unicast as RFC 2131 §4.1 prescribes. -/
theorem SYS_C15 (bound : Nat) (oob : Option Nat) (chain : List Elem4) (input : Option Sys.Req4) :
    C15.holds bound oob (input.map absReq4) (absOut4 (serve4 bound oob chain input)) = true := by
  cases input with
  | none => rfl
  | some req =>
    cases h0 : Sys.stub4 req with
    | none => rw [serve4_stub_none bound oob chain req h0]; rfl
    | some r0 =>
      rw [serve4_eq bound oob chain req r0 h0]
      split
      · rfl
      · rw [absOut4_deliver]
        exact C15_deliver bound oob (absReq4 req) _

/-- C12 for every chain of built-in plugins: what is sent answers a message with a Client-ID by the reply type
of its message type, echoes transaction id, Client-ID and Rapid Commit, mirrors the relay layers and is pinned
to an interface iff the source is link-local. -/
theorem SYS_C12 (bound : Nat) (oob : Option Nat) (src : Addr) (chain : List Elem6) (input : Option Sys.Pkt6) :
    C12.holds bound oob src (input.map absPkt6) (absOut6 (serve6 bound oob src chain input)) = true := by
  cases input with
  | none => rfl
  | some d =>
    generalize hout : serve6 bound oob src chain (some d) = out
    cases out with
    | drop => rfl
    | send layers resp ifidx =>
      obtain ⟨m, r0, hm, h0, hc, rfl, rfl⟩ := serve6_send bound oob src chain d layers resp ifidx hout
      obtain ⟨a1, a2⟩ := chain6_mt_xid chain d r0 resp hc
      exact C12_send bound oob src (absPkt6 d) (absMsg6 m) (absResp6 r0) (absResp6 resp)
        (congrArg (Option.map absMsg6) hm) (by rw [stub6_abs, h0]; rfl)
        ⟨a1, a2,
          lookup_of_filter 1 _ _ (chain6_frame chain d r0 resp hc 1 (fun e _ => (not_owned_cid e).1)),
          congrArg Option.isSome
            (lookup_of_filter 14 _ _ (chain6_frame chain d r0 resp hc 14 (fun e _ => (not_owned_cid e).2)))⟩

/-- C14 end to end (DHCPv4, `server_id` first in the chain): a request naming another server gets
no reply at all, whatever follows in the chain. -/
theorem SYS_C14_drop4 (bound : Nat) (oob : Option Nat) (c : Plug.serverid4.Cfg) (rest : List Elem4) (req : Sys.Req4)
    (h : C14.namesOther4 c (viewReq4 req) = true) :
    serve4 bound oob (.plug (.serverid c) :: rest) (some req) = .drop := by
  refine serve4_drop bound oob [] rest _ req rfl fun mid => ?_
  have hop : (viewReq4 req).op = 1 := by
    rw [C14.namesOther4, Bool.and_eq_true, beq_iff_eq] at h
    exact h.1
  rw [handle4_plug, Plug.plugHandle4, serverid4_handle_eq, if_neg (not_not_intro hop), h, if_pos rfl]

/-- C14 end to end (DHCPv6): a message the Server-ID rules discard gets no reply. -/
theorem SYS_C14_drop6 (bound : Nat) (oob : Option Nat) (src : Addr) (c : Plug.serverid6.Cfg) (rest : List Elem6)
    (d : Sys.Pkt6) (m : Sys.Msg6) (hm : d.msg = some m)
    (h : C14.mustDiscard6 m.mt (C14.rel6 c ⟨d.layers.length, m.mt, m.opts⟩) = true) :
    serve6 bound oob src (.plug (.serverid c) :: rest) (some d) = .drop := by
  refine serve6_drop bound oob src [] rest _ d m hm rfl fun mid => ?_
  rw [handle6_plug, hm]
  dsimp only
  rw [Plug.plugHandle6, serverid6_handle_eq, h, if_pos rfl]

/-- C10/C13 end to end: for a client listed in the static lease file nothing after `file` in the chain runs: the
outcome is the one of the chain cut after `file`. -/
theorem SYS_file_stops4 (bound : Nat) (oob : Option Nat) (pre post : List Elem4) (t : FTable) (req : Sys.Req4)
    (a : BitVec 32) (h : t.get req.chaddr = some (.v4 a)) :
    serve4 bound oob (pre ++ .file t :: post) (some req) = serve4 bound oob (pre ++ [.file t]) (some req) := by
  cases h0 : Sys.stub4 req with
  | none => rw [serve4_stub_none bound oob _ req h0, serve4_stub_none bound oob _ req h0]
  | some r0 =>
    rw [serve4_eq bound oob _ req r0 h0, serve4_eq bound oob _ req r0 h0,
      chain_cut handle4 req (.file t) (file_stops4 t req a h)]

/-- … and when `file` is reached — no element before it ends the chain with a response — the
address sent is the listed one. -/
theorem SYS_file_address4 (bound : Nat) (oob : Option Nat) (pre post : List Elem4) (t : FTable) (req : Sys.Req4)
    (a : BitVec 32) (h : t.get req.chaddr = some (.v4 a))
    (hpre : ∀ e ∈ pre, ∀ r r', handle4 e req (some r) ≠ (some r', true))
    (resp : Sys.Resp4) (peer : BitVec 32) (port : Nat) (ifidx : Option Nat) (l2 : Bool)
    (hs : serve4 bound oob (pre ++ .file t :: post) (some req) = .send resp peer port ifidx l2) :
    resp.yiaddr = be4 a := by
  rw [SYS_file_stops4 bound oob pre post t req a h] at hs
  obtain ⟨r0, h0, hc⟩ := serve4_send bound oob _ req resp peer port ifidx l2 hs
  obtain ⟨r', hr'⟩ := chain_not_stopped_last handle4 handle4_none req (.file t) pre hpre r0 resp hc
  rw [handle4_file, h] at hr'
  cases hr'
  rfl

/-- The same with a hypothesis one can read off the configuration (what the `sys` driver evaluates
on every observed reply): before `file` only plugins that never end the chain (dns, mtu, netmask,
router, lease_time, searchdomains, staticroute, sleep). -/
theorem SYS_file_address4_cfg (bound : Nat) (oob : Option Nat) (pre post : List Elem4) (t : FTable) (req : Sys.Req4)
    (a : BitVec 32) (h : t.get req.chaddr = some (.v4 a)) (hpre : pre.all neverStops4 = true)
    (resp : Sys.Resp4) (peer : BitVec 32) (port : Nat) (ifidx : Option Nat) (l2 : Bool)
    (hs : serve4 bound oob (pre ++ .file t :: post) (some req) = .send resp peer port ifidx l2) :
    resp.yiaddr = be4 a := by
  refine SYS_file_address4 bound oob pre post t req a h (fun e he r r' => ?_) resp peer port ifidx l2 hs
  have hn : (neverStops4 e || isLease e) = true := by rw [List.all_eq_true.mp hpre e he]; rfl
  exact no_stop_with_resp4 e hn req r r'

/-- `hpre` is needed: `nbp` before `file` ends the chain, the listed client is answered without its
address (yiaddr 0.0.0.0) -/
example :
    let req : Sys.Req4 := ⟨1, 7, 1, [2,0,0,0,0,1], 0, [0,0,0,0], [0,0,0,0], [0,0,0,0], [(53, [1])]⟩
    let t : FTable := [([2,0,0,0,0,1], .v4 0x0a090001#32)]
    let pre : List Elem4 := [.plug (.nbp ⟨none, [98]⟩)]
    t.get req.chaddr = some (.v4 0x0a090001#32) ∧
    ∃ r peer port ifidx l2, serve4 3 none (pre ++ .file t :: []) (some req) = .send r peer port ifidx l2 ∧
      r.yiaddr = [0, 0, 0, 0] ∧ r.yiaddr ≠ be4 0x0a090001#32 := by
  refine ⟨by decide, _, _, _, _, _, rfl, rfl, by decide⟩

/-- `Sys.owned4` (Proofs/System.lean) is the table `SYS_frame4` speaks of: a plugin's codes, `file` none -/
example : owned4 (.plug (.nbp ⟨none, []⟩)) = [66, 67] ∧ owned4 (.file []) = [] ∧ owned4 (.plug (.serverid [])) = [54] :=
  ⟨rfl, rfl, rfl⟩

/-- Frame: an option of the reply that differs from the prepared reply (`stub4`) has a code owned
by a plugin of the chain — nothing else is added, changed or removed. -/
theorem SYS_frame4 (bound : Nat) (oob : Option Nat) (chain : List Elem4) (req : Sys.Req4) (r0 : Sys.Resp4)
    (h0 : Sys.stub4 req = some r0)
    (resp : Sys.Resp4) (peer : BitVec 32) (port : Nat) (ifidx : Option Nat) (l2 : Bool)
    (hs : serve4 bound oob chain (some req) = .send resp peer port ifidx l2) (c : Nat)
    (hc : Plug.lookup c resp.opts ≠ Plug.lookup c r0.opts) :
    ∃ e ∈ chain, c ∈ owned4 e := by
  obtain ⟨r0', h0', hrun⟩ := serve4_send bound oob chain req resp peer port ifidx l2 hs
  cases h0.symm.trans h0'
  exact Decidable.byContradiction fun hne => hc (chain4_frame chain req r0 resp hrun c fun e he hm => hne ⟨e, he, hm⟩)

/-- non-vacuity: a DISCOVER through `server_id`, `dns`, `file` (client listed) is answered with the
listed address, the server identifier and — because `file` stops the chain — no router option -/
example :
    let req : Sys.Req4 := ⟨1, 7, 1, [2,0,0,0,0,1], 0, [0,0,0,0], [0,0,0,0], [0,0,0,0], [(53, [1]), (55, [3, 6])]⟩
    let chain : List Elem4 := [.plug (.serverid [10,0,0,1]), .plug (.dns [[8,8,8,8]]), .file [([2,0,0,0,0,1], .v4 0x0a090001#32)], .plug (.router [[10,0,0,254]])]
    ∃ r, serve4 3 none chain (some req) = .send r 0x0a090001#32 68 (some 3) true ∧
      r.yiaddr = [10, 9, 0, 1] ∧ Plug.lookup 54 r.opts = some [10,0,0,1] ∧ Plug.lookup 6 r.opts = some [8,8,8,8] ∧
      Plug.lookup 3 r.opts = none := by
  refine ⟨_, rfl, ?_, ?_, ?_, ?_⟩ <;> rfl

/-- C17 end to end (DHCPv4). A plugin of the chain that is reached (only plugins that never end the
chain before it) and whose option codes no later element owns: the response `mid` it is handed is
what the plugins before it produced, its own handler turns `mid` into `out` — about which
`C17_builtin4` says everything C17 says —, and the reply that is finally sent has, for every
option code the plugin owns, exactly the value in `out`. -/
theorem SYS_C17_delivered4 (bound : Nat) (oob : Option Nat) (pre post : List Elem4) (c : Plug.Cfg4) (req : Sys.Req4)
    (name : String) (args : List Plug.ArgOracle) (hcfg : Plug.plugSetup4 name args = some (.ok c))
    (hpre : pre.all neverStops4 = true)
    (hpost : ∀ e ∈ post, ∀ code ∈ owned4 (.plug c), code ∉ owned4 e)
    (resp : Sys.Resp4) (peer : BitVec 32) (port : Nat) (ifidx : Option Nat) (l2 : Bool)
    (hs : serve4 bound oob (pre ++ .plug c :: post) (some req) = .send resp peer port ifidx l2) :
    ∃ r0 mid out stop, Sys.stub4 req = some r0 ∧
      (runChain (pre.map handle4) req 0 (some r0)).1 = some mid ∧
      Plug.plugHandle4 c (viewReq4 req) (viewResp4 mid) = (some out, stop) ∧
      C17.holds4 c (viewReq4 req) (viewResp4 mid) (some out, stop) = true ∧
      ∀ code ∈ owned4 (.plug c), Plug.lookup code resp.opts = Plug.lookup code out.opts := by
  obtain ⟨r0, mid, x, h0, hmid, hx, hr⟩ := serve4_reach bound oob pre post _ req hpre resp peer port ifidx l2 hs
  obtain ⟨out, stop, hp, rfl⟩ := handle4_plug_some c req mid x hx
  refine ⟨r0, mid, out, stop, h0, hmid, hp, ?_, ?_⟩
  · rw [← hp]
    exact C17_builtin4 name args c (viewReq4 req) (viewResp4 mid) hcfg
  · intro code hcode
    refine hr (fun y => Plug.lookup code y.opts = Plug.lookup code out.opts) rfl fun e he r y hr hy => ?_
    exact ((handle4_within e req r y hy).opts (hpost e he code hcode)).trans hr

/-- non-vacuity of `SYS_C17_delivered4`: `dns` after `router`, before `mtu` -/
example :
    let req : Sys.Req4 := ⟨1, 7, 1, [2,0,0,0,0,1], 0, [0,0,0,0], [0,0,0,0], [0,0,0,0], [(53, [1]), (55, [3, 6, 26])]⟩
    let pre : List Elem4 := [.plug (.router [[10,0,0,254]])]
    let post : List Elem4 := [.plug (.mtu 1500)]
    pre.all neverStops4 = true ∧ (∀ e ∈ post, ∀ code ∈ owned4 (.plug (.dns [[8,8,8,8]])), code ∉ owned4 e) ∧
    ∃ r, serve4 3 none (pre ++ .plug (.dns [[8,8,8,8]]) :: post) (some req) = .send r 0#32 68 (some 3) true ∧
      Plug.lookup 6 r.opts = some [8,8,8,8] := by
  refine ⟨rfl, ?_, _, rfl, rfl⟩
  intro e he code hc
  simp only [List.mem_singleton] at he
  subst he
  simp [owned4] at hc ⊢
  omega

/-- `Sys.owned6` (Proofs/System6.lean) is the table `SYS_frame6` speaks of: `file` owns IA_NA (3), `prefix` IA_PD (25) -/
example : owned6 (.plug (.nbp ⟨[], none⟩)) = [59, 60] ∧ owned6 (.file []) = [3] ∧ owned6 (.plug (.serverid [])) = [2] ∧
    owned6 (.pd []) = [25] ∧ owned6 (.plug (.sleep 0)) = [] ∧ owned6 (.plug (.dns [])) = [23] ∧
    owned6 (.plug (.search [])) = [24] :=
  ⟨rfl, rfl, rfl, rfl, rfl, rfl, rfl⟩

/-- Frame (DHCPv6): the options of a code no element of the chain owns are, in the reply that is sent, exactly (same
values, same order, same multiplicity) those of the prepared reply `stub6`. -/
theorem SYS_frame6 (bound : Nat) (oob : Option Nat) (src : Addr) (chain : List Elem6) (d : Sys.Pkt6) (m : Sys.Msg6)
    (r0 : Sys.Resp6) (hm : d.msg = some m) (h0 : Sys.stub6 m = some r0)
    (layers : List Layer6) (resp : Sys.Resp6) (ifidx : Option Nat)
    (hs : serve6 bound oob src chain (some d) = .send layers resp ifidx) (c : Nat)
    (hc : ∀ e ∈ chain, c ∉ owned6 e) :
    resp.opts.filter (fun o => o.1 == c) = r0.opts.filter (fun o => o.1 == c) := by
  obtain ⟨m', r0', hm', h0', hrun, _⟩ := serve6_send bound oob src chain d layers resp ifidx hs
  cases hm.symm.trans hm'
  cases h0.symm.trans h0'
  exact chain6_frame chain d r0 resp hrun c hc

/-- non-vacuity of `SYS_frame6`: a SOLICIT with Rapid Commit asking for the DNS servers, through `server_id`, `dns`,
`prefix` and `file`: a REPLY is sent, no element owns codes 1 and 14, the Client-ID and Rapid Commit options are
those of the prepared reply; options 2, 23 and 25 were added -/
example :
    let m : Sys.Msg6 := ⟨1, 7, [(1, [0, 3, 0, 1, 2, 0, 0, 0, 0, 1]), (14, []), (6, [0, 23]), (25, [0, 0, 0, 1, 0, 0, 0, 0, 0, 0, 0, 0])]⟩
    let d : Sys.Pkt6 := ⟨[], some m, none⟩
    let chain : List Elem6 := [.plug (.serverid [0, 3, 0, 1, 2, 0, 0, 0, 0, 9]), .plug (.dns [[32, 1, 13, 184, 0, 0, 0, 0, 0, 0, 0, 0, 0, 0, 0, 83]]),
      .pd [⟨[0, 0, 0, 1], []⟩], .file []]
    (∀ e ∈ chain, 1 ∉ owned6 e ∧ 14 ∉ owned6 e) ∧
    ∃ r0 resp, Sys.stub6 m = some r0 ∧ serve6 0 none ⟨0x20010db800000000#64, 1#64⟩ chain (some d) = .send [] resp none ∧
      resp.opts.filter (fun o => o.1 == 1) = [(1, [0, 3, 0, 1, 2, 0, 0, 0, 0, 1])] ∧
      resp.opts.filter (fun o => o.1 == 14) = [(14, [])] ∧ resp.opts.length = 5 := by
  refine ⟨?_, _, _, rfl, rfl, rfl, rfl, rfl⟩
  intro e he
  simp only [List.mem_cons, List.not_mem_nil, or_false] at he
  rcases he with rfl | rfl | rfl | rfl <;> simp [owned6]

/-- C08 end to end: with `prefix` in the chain (once), reached (nothing before it ends the chain), whatever else is
configured before and after it, every reply that is sent carries exactly the IA_PD options `prefix` built — one per
`PdAns`, in order, nothing added, changed or removed by the other plugins. -/
theorem SYS_pd_delivered6 (bound : Nat) (oob : Option Nat) (src : Addr) (pre post : List Elem6) (out : List PdAns)
    (d : Sys.Pkt6) (hpre : pre.all neverStops6 = true)
    (hone : (pre ++ post).all (fun e => !isPd e) = true)
    (layers : List Layer6) (resp : Sys.Resp6) (ifidx : Option Nat)
    (hs : serve6 bound oob src (pre ++ .pd out :: post) (some d) = .send layers resp ifidx) :
    resp.opts.filter (fun o => o.1 == 25) = out.map (fun a => (25, encIAPD a)) := by
  obtain ⟨m, r0, mid, x, hm, h0, hmid, hx, hr⟩ := serve6_reach bound oob src pre post _ d hpre layers resp ifidx hs
  have hnp : ∀ e ∈ pre ++ post, 25 ∉ owned6 e := fun e he =>
    not_pd_owned e (all_not_mem hone he)
  have hx25 : x.opts.filter (fun o => o.1 == 25) = out.map (fun a => (25, encIAPD a)) := by
    cases handle6_pd_some out d mid x hx
    show (mid.opts ++ out.map (fun a => ((25 : Nat), encIAPD a))).filter (fun o => o.1 == 25) = _
    rw [List.filter_append, chain6_frame pre d r0 mid hmid 25 (fun e he => hnp e (List.mem_append_left _ he)),
      stub6_no_code m r0 h0 25 (by decide) (by decide), List.nil_append, List.filter_eq_self]
    intro o ho
    obtain ⟨a, _, rfl⟩ := List.mem_map.mp ho
    rfl
  refine hr (fun y => y.opts.filter (fun o => o.1 == 25) = out.map (fun a => (25, encIAPD a))) hx25 fun e he r y hr hy => ?_
  exact ((handle6_within e d r y hy).opts (hnp e (List.mem_append_right _ he))).trans hr

/-- non-vacuity of `SYS_pd_delivered6`: a relayed REQUEST, `dns` and `file` before `prefix`, `nbp` after it; the
reply goes back through the relay on the pinned interface and carries the two IA_PD options -/
example :
    let m : Sys.Msg6 := ⟨3, 7, [(1, [0, 3, 0, 1, 2, 0, 0, 0, 0, 1]), (6, [0, 23, 0, 59])]⟩
    let l : Layer6 := ⟨12, ⟨0x20010db800000000#64, 1#64⟩, ⟨0xfe80000000000000#64, 2#64⟩, none, none⟩
    let d : Sys.Pkt6 := ⟨[l], some m, none⟩
    let pre : List Elem6 := [.plug (.dns [[32, 1, 13, 184, 0, 0, 0, 0, 0, 0, 0, 0, 0, 0, 0, 83]]), .file []]
    let post : List Elem6 := [.plug (.nbp ⟨[104], none⟩)]
    let out : List PdAns := [⟨[0, 0, 0, 1], [(⟨⟨0x20010db800010000#64, 0#64⟩, 56⟩, 3600)]⟩, ⟨[0, 0, 0, 2], []⟩]
    pre.all neverStops6 = true ∧ (pre ++ post).all (fun e => !isPd e) = true ∧
    ∃ resp, serve6 3 none ⟨0xfe80000000000000#64, 2#64⟩ (pre ++ .pd out :: post) (some d) = .send (mirror [l]) resp (some 3) ∧
      resp.opts.map (·.1) = [1, 23, 25, 25, 59] := ⟨rfl, rfl, _, rfl, rfl⟩

/-- `hpre` is needed: `nbp` before `prefix` ends the chain, the reply is sent without any IA_PD -/
example :
    let m : Sys.Msg6 := ⟨3, 7, [(1, [0, 3, 0, 1, 2, 0, 0, 0, 0, 1])]⟩
    let d : Sys.Pkt6 := ⟨[], some m, none⟩
    ∃ resp, serve6 3 none ⟨0x20010db800000000#64, 2#64⟩ ([.plug (.nbp ⟨[104], none⟩)] ++ .pd [⟨[0, 0, 0, 1], []⟩] :: []) (some d) =
        .send [] resp none ∧ resp.opts.filter (fun o => o.1 == 25) = [] := ⟨_, rfl, rfl⟩

/-- The encoding loses nothing: a client that decodes the IA_PD body (`Sys.decIAPD`, Model/System.lean: IAID, T1,
T2, then IAPrefix sub-options, a Status Code sub-option is skipped) gets exactly the IAID and the blocks with their
lifetimes. -/
theorem SYS_pd_roundtrip (a : PdAns) (hi : a.iaid.length = 4)
    (hb : ∀ p ∈ a.pfxs, p.1.len < 256 ∧ p.2 < 2 ^ 32) : decIAPD (encIAPD a) = some a := by
  obtain ⟨iaid, pfxs⟩ := a
  rw [encIAPD, decIAPD_body iaid _ _ hi rfl]
  dsimp only
  cases pfxs with
  | nil => rfl
  | cons p rest =>
    rw [List.isEmpty_cons, if_neg Bool.false_ne_true,
      decPdSubs_prefixes (p :: rest) (fun q hq => (hb q hq).2) _ (by omega)]
    rfl

/-- non-vacuity of `SYS_pd_roundtrip`: the bytes of an IA_PD with one /56 for an hour, and of one without prefix
(NoPrefixAvail); a lifetime that does not fit 32 bits is not read back (the hypothesis is needed) -/
example :
    let a : PdAns := ⟨[0, 0, 0, 1], [(⟨⟨0x20010db800010000#64, 0#64⟩, 56⟩, 3600)]⟩
    encIAPD a = [0, 0, 0, 1, 0, 0, 0, 0, 0, 0, 0, 0, 0, 26, 0, 25, 0, 0, 14, 16, 0, 0, 14, 16, 56,
      32, 1, 13, 184, 0, 1, 0, 0, 0, 0, 0, 0, 0, 0, 0, 0] ∧ decIAPD (encIAPD a) = some a ∧
    encIAPD ⟨[0, 0, 0, 2], []⟩ = [0, 0, 0, 2, 0, 0, 0, 0, 0, 0, 0, 0, 0, 13, 0, 2, 0, 6] ∧
    decIAPD (encIAPD ⟨[0, 0, 0, 2], []⟩) = some ⟨[0, 0, 0, 2], []⟩ ∧
    decIAPD (encIAPD ⟨[0, 0, 0, 1], [(⟨⟨0x20010db800010000#64, 0#64⟩, 56⟩, 2 ^ 32)]⟩) =
      some ⟨[0, 0, 0, 1], [(⟨⟨0x20010db800010000#64, 0#64⟩, 56⟩, 0)]⟩ := by
  refine ⟨?_, ?_, ?_, ?_, ?_⟩ <;> decide

/-- Every IA_PD of the request is answered on the wire by exactly one IA_PD option, with the same IAID, in order:
`PState.handleMsg` (Model/Prefix.lean) answers `rs`, `prefix` is the chain element `.pd (pdOf rs)`. -/
theorem SYS_pd_answers_each (bound : Nat) (oob : Option Nat) (src : Addr) (pre post : List Elem6)
    (s s' : PState) (c : ClientKey) (iapds : List IAPDReq) (now : Int) (cs cs' : List (Option Nat)) (rs : List IAPDResp)
    (hh : s.handleMsg (some c) iapds now cs = some (s', some rs, cs'))
    (d : Sys.Pkt6) (hpre : pre.all neverStops6 = true) (hone : (pre ++ post).all (fun e => !isPd e) = true)
    (layers : List Layer6) (resp : Sys.Resp6) (ifidx : Option Nat)
    (hs : serve6 bound oob src (pre ++ .pd (pdOf rs) :: post) (some d) = .send layers resp ifidx) :
    (resp.opts.filter (fun o => o.1 == 25)).map (fun o => o.2.take 4) = iapds.map (fun q => Plug.be 4 q.iaid) := by
  rw [SYS_pd_delivered6 bound oob src pre post (pdOf rs) d hpre hone layers resp ifidx hs]
  have h1 : ((pdOf rs).map (fun a => ((25 : Nat), encIAPD a))).map (fun o => o.2.take 4) =
      (rs.map (·.iaid)).map (fun n => Plug.be 4 n) := by
    unfold pdOf
    rw [List.map_map, List.map_map, List.map_map]
    apply List.map_congr_left
    intro r _
    show (encIAPD _).take 4 = Plug.be 4 r.iaid
    unfold encIAPD
    dsimp only
    rw [List.append_assoc]
    exact List.take_left' (Plug.be_length 4 r.iaid)
  obtain ⟨_, e, hrs⟩ := handleMsg_iaids s s' c iapds now cs cs' _ hh
  cases e
  rw [h1, hrs, List.map_map]
  rfl

/-- non-vacuity of `SYS_pd_answers_each`: a pool of four /62 in a /60, a client asking for two IA_PD (IAID 1 and
70000): the state machine answers both, the reply is sent and carries two IA_PD options with those IAIDs -/
example : ∃ a s' rs cs' resp, A6.new ⟨⟨0x20010db800000000#64, 0#64⟩, 60, 62⟩ = .ok a ∧
    (⟨a, []⟩ : PState).handleMsg (some [0, 3, 0, 1, 2, 0, 0, 0, 0, 1]) [⟨1, []⟩, ⟨70000, [.empty]⟩] 10 [some 0, some 1] =
      some (s', some rs, cs') ∧
    serve6 3 none ⟨0x20010db800000000#64, 2#64⟩ ([.plug (.sleep 0)] ++ .pd (pdOf rs) :: [.plug (.search [])])
      (some ⟨[], some ⟨3, 7, [(1, [0, 3, 0, 1, 2, 0, 0, 0, 0, 1])]⟩, none⟩) = .send [] resp none ∧
    (resp.opts.filter (fun o => o.1 == 25)).map (fun o => o.2.take 4) = [[0, 0, 0, 1], [0, 1, 17, 112]] ∧
    (resp.opts.filter (fun o => o.1 == 25)).map (fun o => (decIAPD o.2).map (fun p => p.pfxs.map (·.2))) =
      [some [3600], some [3600]] :=
  ⟨_, _, _, _, _, rfl, rfl, rfl, rfl, rfl⟩

/-- C10 end to end with `range` before `file`: before `file` only plugins that never end the chain and `range` (which
hands its response on or drops the request, but never ends the chain with a response): if anything is sent to a
listed client, it carries the listed address, not the one `range` chose. -/
theorem SYS_file_address4_lease (bound : Nat) (oob : Option Nat) (pre post : List Elem4) (t : FTable) (req : Sys.Req4)
    (a : BitVec 32) (h : t.get req.chaddr = some (.v4 a)) (hpre : pre.all (fun e => neverStops4 e || isLease e) = true)
    (resp : Sys.Resp4) (peer : BitVec 32) (port : Nat) (ifidx : Option Nat) (l2 : Bool)
    (hs : serve4 bound oob (pre ++ .file t :: post) (some req) = .send resp peer port ifidx l2) :
    resp.yiaddr = be4 a :=
  SYS_file_address4 bound oob pre post t req a h
    (fun e he r r' => no_stop_with_resp4 e (List.all_eq_true.mp hpre e he) req r r') resp peer port ifidx l2 hs

/-- non-vacuity of `SYS_file_address4_lease`: a DISCOVER through `range` (which answers 10.0.10.10 for 60 s) then `file`
listing the client with 10.9.0.1: the reply's yiaddr is 10.9.0.1 (and option 51 is still the one of `range`) -/
example :
    let req : Sys.Req4 := ⟨1, 7, 1, [2,0,0,0,0,1], 0, [0,0,0,0], [0,0,0,0], [0,0,0,0], [(53, [1])]⟩
    let t : FTable := [([2,0,0,0,0,1], .v4 0x0a090001#32)]
    let pre : List Elem4 := [.lease (some (0x0a000a0a#32, 60))]
    t.get req.chaddr = some (.v4 0x0a090001#32) ∧ pre.all (fun e => neverStops4 e || isLease e) = true ∧
    ∃ r, serve4 3 none (pre ++ .file t :: []) (some req) = .send r 0x0a090001#32 68 (some 3) true ∧
      r.yiaddr = [10, 9, 0, 1] ∧ r.yiaddr = be4 0x0a090001#32 ∧ Plug.lookup 51 r.opts = some [0, 0, 0, 60] := by
  refine ⟨by decide, rfl, _, rfl, rfl, by decide, rfl⟩

/-- C14 end to end (DHCPv4, `server_id` first in the chain and nowhere else): every reply that is sent carries this
server's address in option 54 and in siaddr — no other element writes either. -/
theorem SYS_C14_stamped4 (bound : Nat) (oob : Option Nat) (c : Plug.serverid4.Cfg) (rest : List Elem4) (req : Sys.Req4)
    (hrest : rest.all (fun e => !isServerId4 e) = true)
    (resp : Sys.Resp4) (peer : BitVec 32) (port : Nat) (ifidx : Option Nat) (l2 : Bool)
    (hs : serve4 bound oob (.plug (.serverid c) :: rest) (some req) = .send resp peer port ifidx l2) :
    Plug.lookup 54 resp.opts = some c ∧ resp.siaddr = c := by
  obtain ⟨r0, mid, x, h0, hmid, hx, hr⟩ := serve4_reach bound oob [] rest _ req rfl resp peer port ifidx l2 hs
  cases hmid
  obtain ⟨p, stop, hp, rfl⟩ := handle4_plug_some _ req r0 x hx
  have hx' : Plug.lookup 54 p.opts = some c ∧ p.siaddr = c := by
    have hop : (viewReq4 req).op = 1 := (stub4_sys_some req r0 h0).1
    rw [Plug.plugHandle4, serverid4_handle_eq, if_neg (not_not_intro hop)] at hp
    split at hp
    · cases hp
    · cases hp
      exact ⟨lookup_upd4_same 54 c _, rfl⟩
  refine hr (fun y => Plug.lookup 54 y.opts = some c ∧ y.siaddr = c) hx' fun e he r y hr hy => ?_
  have hns := all_not_mem hrest he
  have hw := handle4_within e req r y hy
  exact ⟨(hw.opts (not_serverid_54 e hns)).trans hr.1, (hw.siaddr hns).trans hr.2⟩

/-- non-vacuity of `SYS_C14_stamped4`: a REQUEST naming this server, through `server_id`, `range`, `dns`, `nbp`: the ACK
carries 10.0.0.1 in option 54 and in siaddr. `hrest` is needed: a second `server_id` (another address, which the
request does not name either way) after the first overwrites both. -/
example :
    let req : Sys.Req4 := ⟨1, 7, 1, [2,0,0,0,0,1], 0, [0,0,0,0], [0,0,0,0], [0,0,0,0], [(53, [3]), (54, [10,0,0,1])]⟩
    let rest : List Elem4 := [.lease (some (0x0a000a0a#32, 60)), .plug (.dns [[8,8,8,8]]), .plug (.nbp ⟨none, [98]⟩)]
    rest.all (fun e => !isServerId4 e) = true ∧
    (∃ r, serve4 3 none (.plug (.serverid [10,0,0,1]) :: rest) (some req) = .send r 0x0a000a0a#32 68 (some 3) true ∧
      Plug.lookup 54 r.opts = some [10,0,0,1] ∧ r.siaddr = [10,0,0,1] ∧ Sys.mtOf r.opts = 5) ∧
    (let req0 : Sys.Req4 := ⟨1, 7, 1, [2,0,0,0,0,1], 0, [0,0,0,0], [0,0,0,0], [0,0,0,0], [(53, [1])]⟩
     ∃ r peer port ifidx l2,
      serve4 3 none (.plug (.serverid [10,0,0,1]) :: [.plug (.serverid [10,0,0,2])]) (some req0) = .send r peer port ifidx l2 ∧
      Plug.lookup 54 r.opts = some [10,0,0,2] ∧ r.siaddr = [10,0,0,2]) :=
  ⟨rfl, ⟨_, rfl, rfl, rfl, rfl⟩, ⟨_, _, _, _, _, rfl, rfl, rfl⟩⟩

/-- C14 end to end (DHCPv6, `server_id` first in the chain and nowhere else): every reply that is sent carries exactly
one Server Identifier option, this server's DUID. -/
theorem SYS_C14_stamped6 (bound : Nat) (oob : Option Nat) (src : Addr) (c : Plug.serverid6.Cfg) (rest : List Elem6)
    (hrest : rest.all (fun e => match e with | .plug (.serverid _) => false | _ => true) = true)
    (d : Sys.Pkt6) (layers : List Layer6) (resp : Sys.Resp6) (ifidx : Option Nat)
    (hs : serve6 bound oob src (.plug (.serverid c) :: rest) (some d) = .send layers resp ifidx) :
    resp.opts.filter (fun o => o.1 == 2) = [(2, c)] := by
  obtain ⟨m, r0, mid, x, hm, h0, hmid, hx, hr⟩ := serve6_reach bound oob src [] rest _ d rfl layers resp ifidx hs
  cases hmid
  obtain ⟨m', p, stop, hm', hp, rfl⟩ := handle6_plug_some _ d r0 x hx
  cases hm.symm.trans hm'
  have hx' : p.opts.filter (fun o => o.1 == 2) = [(2, c)] := by
    rw [Plug.plugHandle6, serverid6_handle_eq] at hp
    split at hp
    · cases hp
    · cases hp
      refine filter_self_upd6 2 c r0.opts ?_
      show (r0.opts.filter _).length ≤ 1
      rw [stub6_no_code m r0 h0 2 (by decide) (by decide)]
      exact Nat.zero_le 1
  refine hr (fun y => y.opts.filter (fun o => o.1 == 2) = [(2, c)]) hx' fun e he r y hr hy => ?_
  exact ((handle6_within e d r y hy).opts (not_serverid_2 e (List.all_eq_true.mp hrest e he))).trans hr

/-- non-vacuity of `SYS_C14_stamped6`: a SOLICIT asking for the DNS servers through `server_id`, `dns`, `prefix`, `file`;
and a REQUEST naming this server (its Server Identifier is checked, the reply carries it once) -/
example :
    let duid : Plug.Bytes := [0, 3, 0, 1, 2, 0, 0, 0, 0, 9]
    let m : Sys.Msg6 := ⟨1, 7, [(1, [0, 3, 0, 1, 2, 0, 0, 0, 0, 1]), (6, [0, 23])]⟩
    let m3 : Sys.Msg6 := ⟨3, 8, [(1, [0, 3, 0, 1, 2, 0, 0, 0, 0, 1]), (2, duid)]⟩
    let rest : List Elem6 := [.plug (.dns [[32, 1, 13, 184, 0, 0, 0, 0, 0, 0, 0, 0, 0, 0, 0, 83]]), .pd [⟨[0, 0, 0, 1], []⟩], .file []]
    rest.all (fun e => match e with | .plug (.serverid _) => false | _ => true) = true ∧
    (∃ resp, serve6 0 none ⟨0x20010db800000000#64, 1#64⟩ (.plug (.serverid duid) :: rest) (some ⟨[], some m, none⟩) = .send [] resp none ∧
      resp.opts.filter (fun o => o.1 == 2) = [(2, duid)] ∧ resp.opts.map (·.1) = [1, 2, 23, 25]) ∧
    (∃ resp, serve6 0 none ⟨0x20010db800000000#64, 1#64⟩ (.plug (.serverid duid) :: rest) (some ⟨[], some m3, none⟩) = .send [] resp none ∧
      resp.opts.filter (fun o => o.1 == 2) = [(2, duid)] ∧ resp.mt = 7) :=
  ⟨rfl, ⟨_, rfl, rfl, rfl⟩, ⟨_, rfl, rfl, rfl⟩⟩

/-- C02 end to end: `range` in the chain, reached (only plugins that never end the chain before it), once: every
reply that is sent carries the lease time of `range` in option 51, whatever `lease_time` plugin sits before it (its
value is overwritten) or after it (it keeps an option 51 that is there). -/
theorem SYS_C02_lease4 (bound : Nat) (oob : Option Nat) (pre post : List Elem4) (ip : BitVec 32) (o51 : Nat) (req : Sys.Req4)
    (hpre : pre.all neverStops4 = true)
    (hpost : post.all (fun e => !isLease e) = true)
    (resp : Sys.Resp4) (peer : BitVec 32) (port : Nat) (ifidx : Option Nat) (l2 : Bool)
    (hs : serve4 bound oob (pre ++ .lease (some (ip, o51)) :: post) (some req) = .send resp peer port ifidx l2) :
    Plug.lookup 51 resp.opts = some (Plug.be 4 o51) := by
  obtain ⟨r0, mid, x, _, _, hx, hr⟩ := serve4_reach bound oob pre post _ req hpre resp peer port ifidx l2 hs
  cases hx
  refine hr (fun y => Plug.lookup 51 y.opts = some (Plug.be 4 o51)) (lookup_upd4_same 51 _ _) fun e he r y hr hy => ?_
  exact (handle4_within e req r y hy).keeps51 (all_not_mem hpost he) _ hr

/-- … and when no `file` comes after `range` either, the address of the reply is the one `range` chose. -/
theorem SYS_C02_addr4 (bound : Nat) (oob : Option Nat) (pre post : List Elem4) (ip : BitVec 32) (o51 : Nat) (req : Sys.Req4)
    (hpre : pre.all neverStops4 = true)
    (hpost : post.all (fun e => !isLease e) = true)
    (hfile : post.all (fun e => match e with | .file _ => false | _ => true) = true)
    (resp : Sys.Resp4) (peer : BitVec 32) (port : Nat) (ifidx : Option Nat) (l2 : Bool)
    (hs : serve4 bound oob (pre ++ .lease (some (ip, o51)) :: post) (some req) = .send resp peer port ifidx l2) :
    resp.yiaddr = be4 ip := by
  obtain ⟨r0, mid, x, _, _, hx, hr⟩ := serve4_reach bound oob pre post _ req hpre resp peer port ifidx l2 hs
  cases hx
  refine hr (fun y => y.yiaddr = be4 ip) rfl fun e he r y hr hy => ?_
  exact ((handle4_within e req r y hy).yiaddr (List.all_eq_true.mp hfile e he) (all_not_mem hpost he)).trans hr

/-- non-vacuity of `SYS_C02_lease4` and `SYS_C02_addr4`: `lease_time 3600 s` before `range` (10.0.10.10 for 60 s) and
`lease_time 7200 s` after it: the reply has option 51 = 60 s and yiaddr 10.0.10.10. Without `range` the same
`lease_time 3600 s` does answer 3600 s (option 51 = 0x00000e10), so the first `lease_time` was overwritten. -/
example :
    let req : Sys.Req4 := ⟨1, 7, 1, [2,0,0,0,0,1], 0, [0,0,0,0], [0,0,0,0], [0,0,0,0], [(53, [1])]⟩
    let pre : List Elem4 := [.plug (.leasetime 3600000000000)]
    let post : List Elem4 := [.plug (.leasetime 7200000000000), .plug (.router [[10,0,0,254]])]
    pre.all neverStops4 = true ∧ post.all (fun e => !isLease e) = true ∧
    post.all (fun e => match e with | .file _ => false | _ => true) = true ∧
    (∃ r, serve4 3 none (pre ++ .lease (some (0x0a000a0a#32, 60)) :: post) (some req) = .send r 0x0a000a0a#32 68 (some 3) true ∧
      Plug.lookup 51 r.opts = some [0, 0, 0, 60] ∧ Plug.be 4 60 = [0, 0, 0, 60] ∧ r.yiaddr = [10, 0, 10, 10] ∧
      be4 0x0a000a0a#32 = [10, 0, 10, 10] ∧ Plug.lookup 3 r.opts = some [10, 0, 0, 254]) ∧
    (∃ r peer port ifidx l2, serve4 3 none (pre ++ post) (some req) = .send r peer port ifidx l2 ∧
      Plug.lookup 51 r.opts = some [0, 0, 14, 16]) := by
  refine ⟨rfl, rfl, rfl, ⟨_, rfl, rfl, rfl, rfl, by decide, rfl⟩, ⟨_, _, _, _, _, rfl, rfl⟩⟩

/-- `hfile` of `SYS_C02_addr4` is needed: `file` after `range` replaces the address for a listed client (this is
`SYS_file_address4_lease`) -/
example :
    let req : Sys.Req4 := ⟨1, 7, 1, [2,0,0,0,0,1], 0, [0,0,0,0], [0,0,0,0], [0,0,0,0], [(53, [1])]⟩
    ∃ r peer port ifidx l2,
      serve4 3 none ([] ++ .lease (some (0x0a000a0a#32, 60)) :: [.file [([2,0,0,0,0,1], .v4 0x0a090001#32)]]) (some req) =
        .send r peer port ifidx l2 ∧ r.yiaddr = [10, 9, 0, 1] ∧ r.yiaddr ≠ be4 0x0a000a0a#32 :=
  ⟨_, _, _, _, _, rfl, rfl, by decide⟩

end CoreDhcp
