/-
C04 — Allocators never hand out overlapping blocks.
The monitor this theorem is about is the `c04` component of `Mon6.step` / `Mon4.step` (Spec/Alloc.lean).
-/
import CoreDhcp.Proofs.Alloc6
import CoreDhcp.Proofs.Alloc4
namespace CoreDhcp

/-- IPv6 pool: for every well-formed pool, every history of Allocate (any hint) and Free (any
well-formed prefix no shorter than the allocation size) and every admissible allocation policy,
a block returned by Allocate is disjoint (as an address interval) from every block outstanding
at that moment. Holds without assuming that only outstanding blocks are freed, because C06 holds. -/
theorem C04_alloc6 (p : Pool6) (hp : p.WF) (a : A6) (hnew : A6.new p = .ok a)
    (ops : List Op6) (cs : List (Option Nat)) (evs : List Ev6) (z : A6)
    (hdom : ops.all (Op6.inDomain p) = true) (hrun : A6.run a ops cs = some (evs, z)) :
    C04.holds6 p evs = true :=
  (Verdict.all_proj (A6.run_verdicts p hp a hnew ops cs evs z hdom hrun)).1

/-- IPv4 range: every range start ≤ end, including 0.0.0.0–255.255.255.255. -/
theorem C04_alloc4 (s e : BitVec 32) (a : A4) (hnew : A4.new (some s) (some e) = .ok a)
    (ops : List Op4) (cs : List (Option Nat)) (evs : List Ev4) (z : A4)
    (hrun : A4.run a ops cs = some (evs, z)) :
    C04.holds4 s e evs = true :=
  (Verdict.all_proj (A4.run_verdicts s e a hnew ops cs evs z hrun)).1

/-- non-vacuity: a concrete history is a run of the model -/
example : ∃ a evs z, A4.new (some 0x0a000001#32) (some 0x0a000002#32) = .ok a ∧
    A4.run a [.alloc none, .alloc (some 0x0a000002#32), .alloc none, .free (some 0x0a000001#32), .alloc none]
      [some 0, none, none, some 0] = some (evs, z) ∧ evs.length = 5 := ⟨_, _, _, rfl, rfl, rfl⟩

end CoreDhcp
