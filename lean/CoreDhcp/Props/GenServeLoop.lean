/-
Unit `serveloop`: Generated/ServeLoop.lean (written by `harness gen -unit serveloop` from the go/ast of server/handle.go:
the pool, the two Serve loops, the head of the two handlers) against the hand-written Model/ServeLoop.lean, and the facts
about the receive side that C16 ("one datagram's handling never sees another's bytes") and C01 ("a datagram cannot take
the server down") rely on, proved about the model and, through the equalities, about the regenerated code.
-/
import CoreDhcp.Generated.ServeLoop
namespace CoreDhcp
open ServeLoop

/-- `New` yields a POINTER to a buffer of `MaxDatagram` = 65536 bytes -/
theorem GEN_serve_pool_new :
    GenServeLoop.poolNew = ⟨.ptr, 65536⟩ ∧ GenServeLoop.maxDatagram = 65536 ∧
    GenServeLoop.poolNew = ServeLoop.poolNew ServeLoop.maxDatagram :=
  ⟨rfl, rfl, rfl⟩

example : GenServeLoop.poolNew.kind = .ptr ∧ GenServeLoop.poolNew.len = 2 ^ 16 := by decide

theorem GEN_serve_iter6_eq (taken : Item) (r : Read) :
    GenServeLoop.iter6 taken r = ServeLoop.iter .v6 ServeLoop.maxDatagram taken r := by
  obtain ⟨k, b⟩ := taken
  obtain ⟨n, oob, peer, e⟩ := r
  -- `if` on the (in)equalities `kind ≠ .ptr`, `err = .closed`, `err ≠ .none` against `match` on the kind and on the error
  cases k
  · cases e
    · rfl
    · rfl
    · rfl
  · rfl

example : GenServeLoop.iter6 ⟨.ptr, ⟨7, 300⟩⟩ ⟨300, 11, 12, .none⟩ = .ran ⟨7, 65536⟩ (.spawn ⟨.v6, 7, 300, 11, 12⟩) := by decide

theorem GEN_serve_iter4_eq (taken : Item) (r : Read) :
    GenServeLoop.iter4 taken r = ServeLoop.iter .v4 ServeLoop.maxDatagram taken r := by
  obtain ⟨k, b⟩ := taken
  obtain ⟨n, oob, peer, e⟩ := r
  cases k
  · cases e
    · rfl
    · rfl
    · rfl
  · rfl

example : GenServeLoop.iter4 ⟨.ptr, ⟨7, 300⟩⟩ ⟨0, 11, 12, .other⟩ = .ran ⟨7, 65536⟩ (.exit .err) := by decide
example : GenServeLoop.iter4 ⟨.ptr, ⟨7, 300⟩⟩ ⟨0, 11, 12, .closed⟩ = .ran ⟨7, 65536⟩ (.exit .nil) := by decide

theorem GEN_serve_head6_eq (parsedOk : Bool) : GenServeLoop.head6 parsedOk = ServeLoop.handlerHead parsedOk := by
  cases parsedOk <;> rfl

example : GenServeLoop.head6 false = ⟨[.parse, .put .ptr], false⟩ := by decide

theorem GEN_serve_head4_eq (parsedOk : Bool) : GenServeLoop.head4 parsedOk = ServeLoop.handlerHead parsedOk := by
  cases parsedOk <;> rfl

example : GenServeLoop.head4 true = ⟨[.parse, .put .ptr], true⟩ := by decide

theorem GEN_serve_code_eq : GenServeLoop.code = ServeLoop.code ServeLoop.maxDatagram := by
  unfold GenServeLoop.code ServeLoop.code
  congr 1
  · funext f taken r
    cases f
    · exact GEN_serve_iter6_eq taken r
    · exact GEN_serve_iter4_eq taken r
  · funext f ok
    cases f
    · exact GEN_serve_head6_eq ok
    · exact GEN_serve_head4_eq ok

theorem ServeLoop.iter_ptr (f : Fam) (md : Nat) (b : Buf) (r : Read) :
    iter f md ⟨.ptr, b⟩ r = .ran ⟨b.id, md⟩ (match r.err with
      | .none => .spawn ⟨f, b.id, r.n, r.oob, r.peer⟩
      | .closed => .exit .nil
      | .other => .exit .err) := by
  unfold iter
  cases r.err <;> rfl

/-- whatever length the pooled buffer had (a handler puts back `b[:n]`), `ReadFrom` is given `maxDatagram` bytes
of the buffer that was taken -/
theorem SERVE_reads_full_buffer (f : Fam) (md : Nat) (taken : Item) (r : Read) (into : Buf) (next : Next)
    (h : iter f md taken r = .ran into next) : into.len = md ∧ into.id = taken.buf.id := by
  obtain ⟨k, b⟩ := taken
  cases k
  · rw [iter_ptr] at h
    cases h
    exact ⟨rfl, rfl⟩
  · cases h

example : ∃ into next, iter .v4 65536 ⟨.ptr, ⟨3, 548⟩⟩ ⟨300, 1, 2, .none⟩ = .ran into next ∧ into.len = 65536 :=
  ⟨_, _, rfl, rfl⟩

/-- a spawned handler gets the buffer, the length, the control message and the peer of the read of ITS iteration
(and is the handler of this loop's family); it is spawned only after a read without error -/
theorem SERVE_spawn_own_values (f : Fam) (md : Nat) (taken : Item) (r : Read) (into : Buf) (s : Spawn)
    (h : iter f md taken r = .ran into (.spawn s)) :
    s = ⟨f, taken.buf.id, r.n, r.oob, r.peer⟩ ∧ s.buf = into.id ∧ r.err = .none := by
  obtain ⟨k, b⟩ := taken
  cases k
  · rw [iter_ptr] at h
    generalize r.err = e at h ⊢
    cases e <;> cases h
    exact ⟨rfl, rfl, rfl⟩
  · cases h

example : iter .v6 65536 ⟨.ptr, ⟨3, 548⟩⟩ ⟨300, 41, 42, .none⟩ = .ran ⟨3, 65536⟩ (.spawn ⟨.v6, 3, 300, 41, 42⟩) := rfl

theorem ServeLoop.run_ptr_ok (f : Fam) (md : Nat) (b : Buf) (r : Read) (rest : List (Item × Read)) (he : r.err = .none) :
    run f md ((⟨.ptr, b⟩, r) :: rest) = (⟨f, b.id, r.n, r.oob, r.peer⟩ :: (run f md rest).1, (run f md rest).2) := by
  rw [run, iter_ptr, he]

theorem ServeLoop.run_ptr_end (f : Fam) (md : Nat) (b : Buf) (r : Read) (rest : List (Item × Read)) (he : r.err ≠ .none) :
    run f md ((⟨.ptr, b⟩, r) :: rest) = ([], some (.exit (if r.err = .closed then .nil else .err))) := by
  rw [run, iter_ptr]
  cases hr : r.err with
  | none => exact absurd hr he
  | closed => rfl
  | other => rfl

/-- over a whole run of the loop: the k-th handler spawned has the values of the k-th iteration — the buffer `Get`
returned THEN, and the three results of THAT `ReadFrom` -/
theorem SERVE_spawn_own_values_run (f : Fam) (md : Nat) (steps : List (Item × Read)) (k : Nat) (s : Spawn)
    (h : (run f md steps).1[k]? = some s) :
    ∃ t r, steps[k]? = some (t, r) ∧ s = ⟨f, t.buf.id, r.n, r.oob, r.peer⟩ := by
  induction steps generalizing k with
  | nil => simp [run] at h
  | cons p rest ih =>
    obtain ⟨⟨kd, b⟩, r⟩ := p
    cases kd
    · by_cases he : r.err = .none
      · rw [run_ptr_ok f md b r rest he] at h
        cases k with
        | zero => exact ⟨_, r, rfl, (Option.some.inj h).symm⟩
        | succ k => exact ih k h
      · rw [run_ptr_end f md b r rest he] at h
        cases h
    · cases h

example : (run .v6 65536 [(⟨.ptr, ⟨0, 65536⟩⟩, ⟨300, 1, 2, .none⟩), (⟨.ptr, ⟨1, 65536⟩⟩, ⟨200, 3, 4, .none⟩),
    (⟨.ptr, ⟨0, 300⟩⟩, ⟨0, 5, 6, .closed⟩)]) = ([⟨.v6, 0, 300, 1, 2⟩, ⟨.v6, 1, 200, 3, 4⟩], some (.exit .nil)) := by decide

/-- a successful read spawns exactly one handler (and the loop goes on); a failed or closed read spawns none and
ends the loop (`return err` / `return nil`); no path goes to the next iteration without a spawn -/
theorem SERVE_one_spawn_per_datagram (f : Fam) (md : Nat) (taken : Item) (r : Read) (hk : taken.kind = .ptr) :
    (r.err = .none → ∃ into s, iter f md taken r = .ran into (.spawn s)) ∧
    (r.err = .closed → ∃ into, iter f md taken r = .ran into (.exit .nil)) ∧
    (r.err = .other → ∃ into, iter f md taken r = .ran into (.exit .err)) ∧
    (∀ into, iter f md taken r ≠ .ran into .again) := by
  obtain ⟨k, b⟩ := taken
  cases hk
  rw [iter_ptr]
  cases r.err <;> simp

/-- over a run: as many handlers as reads before the first read that fails, and the loop ends there -/
theorem SERVE_one_spawn_per_datagram_run (f : Fam) (md : Nat) (pre post : List (Item × Read)) (t : Item) (r : Read)
    (hpre : ∀ p ∈ pre, p.1.kind = .ptr ∧ p.2.err = .none) (ht : t.kind = .ptr) (hr : r.err ≠ .none) :
    (run f md pre).1.length = pre.length ∧ (run f md pre).2 = none ∧
    (run f md (pre ++ (t, r) :: post)).1.length = pre.length ∧
    (run f md (pre ++ (t, r) :: post)).2 = some (.exit (if r.err = .closed then .nil else .err)) := by
  induction pre with
  | nil =>
    obtain ⟨k, b⟩ := t
    cases ht
    rw [List.nil_append, run_ptr_end f md b r post hr]
    exact ⟨rfl, rfl, rfl, rfl⟩
  | cons p rest ih =>
    obtain ⟨hk, he⟩ := hpre p (List.mem_cons_self ..)
    have ih := ih (fun q hq => hpre q (List.mem_cons_of_mem _ hq))
    obtain ⟨⟨kd, b⟩, r'⟩ := p
    cases hk
    rw [List.cons_append, run_ptr_ok f md b r' _ he, run_ptr_ok f md b r' _ he]
    exact ⟨congrArg (· + 1) ih.1, ih.2.1, congrArg (· + 1) ih.2.2.1, ih.2.2.2⟩

example : (run .v4 65536 [(⟨.ptr, ⟨0, 65536⟩⟩, ⟨300, 1, 2, .none⟩), (⟨.ptr, ⟨1, 65536⟩⟩, ⟨0, 3, 4, .other⟩),
    (⟨.ptr, ⟨2, 65536⟩⟩, ⟨100, 5, 6, .none⟩)]) = ([⟨.v4, 0, 300, 1, 2⟩], some (.exit .err)) := by decide

/-- on every path of the handler's head (parse error or not) the buffer goes back to the pool exactly once, as a
pointer, after the parse (and after nothing else), and is not read afterwards; the handler goes on exactly when
the parse succeeded -/
theorem SERVE_buffer_back_once (parsedOk : Bool) :
    putsOf (handlerHead parsedOk).events = [.ptr] ∧
    (∃ pre, (handlerHead parsedOk).events = pre ++ [.put .ptr] ∧ pre = [.parse]) ∧
    usedAfterPut (handlerHead parsedOk).events = false ∧
    (handlerHead parsedOk).continues = parsedOk :=
  ⟨rfl, ⟨_, rfl, rfl⟩, rfl, rfl⟩

theorem SERVE_buffer_back_once_gen (parsedOk : Bool) :
    putsOf (GenServeLoop.head6 parsedOk).events = [.ptr] ∧ usedAfterPut (GenServeLoop.head6 parsedOk).events = false ∧
    putsOf (GenServeLoop.head4 parsedOk).events = [.ptr] ∧ usedAfterPut (GenServeLoop.head4 parsedOk).events = false := by
  rw [GEN_serve_head6_eq, GEN_serve_head4_eq]
  exact ⟨rfl, rfl, rfl, rfl⟩

/-- the predicates are not trivially true: a second `Put`, a `Put` of the slice, a `Put` before the parse, a use after it -/
example : putsOf [.parse, .put .ptr, .put .ptr] = [.ptr, .ptr] ∧ putsOf [.parse, .put .slice] = [.slice] ∧
    usedAfterPut [.put .ptr, .parse] = true ∧ usedAfterPut [.parse, .put .ptr, .use] = true ∧ putsOf [.parse] = [] := by decide

namespace ServeLoop

theorem perm_eraseIdx {α : Type} : ∀ {l : List α} {i : Nat} {a : α}, l[i]? = some a → l.Perm (a :: l.eraseIdx i)
  | [], i, a, h => by simp at h
  | x :: xs, 0, a, h => by
    cases Option.some.inj (List.getElem?_cons_zero ▸ h)
    exact List.Perm.refl _
  | x :: xs, i + 1, a, h => by
    have ih := perm_eraseIdx (List.getElem?_cons_succ ▸ h)
    rw [List.eraseIdx_cons_succ]
    exact (List.Perm.cons x ih).trans (List.Perm.swap a x _)

/-- putting `x` at place `i` exchanges what the old element gave for what `x` gives; with `toList` on both sides this
is one statement for the four cases of `f a`, `f x` (`_set_some`, `_set_none` are the two that occur) -/
theorem perm_filterMap_set {α β : Type} (f : α → Option β) (x : α) :
    ∀ {l : List α} {i : Nat} {a : α}, l[i]? = some a →
      ((f a).toList ++ (l.set i x).filterMap f).Perm ((f x).toList ++ l.filterMap f)
  | [], i, a, h => by simp at h
  | b :: bs, 0, a, h => by
    cases Option.some.inj (List.getElem?_cons_zero ▸ h)
    rw [List.set_cons_zero, List.filterMap_cons, List.filterMap_cons]
    cases f b <;> cases f x <;> simp [List.Perm.swap]
  | b :: bs, i + 1, a, h => by
    have ih := perm_filterMap_set f x (List.getElem?_cons_succ ▸ h)
    rw [List.set_cons_succ, List.filterMap_cons, List.filterMap_cons]
    cases f b with
    | none => exact ih
    | some z => exact List.perm_middle.trans ((ih.cons z).trans List.perm_middle.symm)

theorem perm_filterMap_set_some {α β : Type} (f : α → Option β) {l : List α} {i : Nat} {a x : α} {y : β}
    (h : l[i]? = some a) (ha : f a = none) (hx : f x = some y) : ((l.set i x).filterMap f).Perm (y :: l.filterMap f) := by
  simpa [ha, hx] using perm_filterMap_set f x h

theorem perm_filterMap_set_none {α β : Type} (f : α → Option β) {l : List α} {i : Nat} {a x : α} {y : β}
    (h : l[i]? = some a) (ha : f a = some y) (hx : f x = none) : (l.filterMap f).Perm (y :: (l.set i x).filterMap f) := by
  simpa [ha, hx] using (perm_filterMap_set f x h).symm

theorem perm_map_concat {α β : Type} (f : α → β) (l : List α) (x : α) : ((l ++ [x]).map f).Perm (f x :: l.map f) := by
  rw [List.map_append]
  exact List.perm_append_comm

theorem perm3_left {α : Type} {P P' L H : List α} {x : α} (h : P.Perm (x :: P')) :
    (P ++ L ++ H).Perm (x :: (P' ++ L ++ H)) := by
  have := (h.append_right L).append_right H
  simpa using this

theorem perm3_mid {α : Type} {P L L' H : List α} {x : α} (h : L.Perm (x :: L')) :
    (P ++ L ++ H).Perm (x :: (P ++ L' ++ H)) := by
  have h1 : (P ++ L).Perm (x :: (P ++ L')) := (h.append_left P).trans List.perm_middle
  have := h1.append_right H
  simpa using this

theorem perm3_right {α : Type} {P L H H' : List α} {x : α} (h : H.Perm (x :: H')) :
    (P ++ L ++ H).Perm (x :: (P ++ L ++ H')) :=
  (h.append_left (P ++ L)).trans List.perm_middle

structure Sys.Inv (s : Sys) : Prop where
  nodup   : s.hands.Nodup
  /-- what makes the buffer `New` makes new (`of_more`) -/
  lt      : ∀ id ∈ s.hands, id < s.fresh
  poolPtr : ∀ it ∈ s.pool, it.kind = .ptr
  heldPtr : ∀ lp ∈ s.loops, ∀ it, lp.held = some it → it.kind = .ptr
  alive   : s.crashed = false

theorem Sys.Inv.init (fams : List Fam) : (Sys.init fams).Inv := by
  have hh : (Sys.init fams).hands = [] := by
    simp [Sys.hands, Sys.init, List.filterMap_eq_nil_iff, Loop.heldId]
  refine ⟨hh ▸ List.nodup_nil, ?_, nofun, fun lp hlp it hit => ?_, rfl⟩
  · rw [hh]
    nofun
  · obtain ⟨f, _, rfl⟩ := List.mem_map.mp hlp
    cases hit

theorem Sys.Inv.of_perm {s s' : Sys} (h : s.Inv) (hp : s'.hands.Perm s.hands) (hf : s'.fresh = s.fresh)
    (h3 : ∀ it ∈ s'.pool, it.kind = .ptr) (h4 : ∀ lp ∈ s'.loops, ∀ it, lp.held = some it → it.kind = .ptr)
    (h5 : s'.crashed = false) : s'.Inv :=
  ⟨hp.nodup_iff.mpr h.nodup, fun id hid => hf ▸ h.lt id (hp.mem_iff.mp hid), h3, h4, h5⟩

theorem Sys.Inv.of_less {s s' : Sys} {x : Nat} (h : s.Inv) (hp : s.hands.Perm (x :: s'.hands)) (hf : s'.fresh = s.fresh)
    (h3 : ∀ it ∈ s'.pool, it.kind = .ptr) (h4 : ∀ lp ∈ s'.loops, ∀ it, lp.held = some it → it.kind = .ptr)
    (h5 : s'.crashed = false) : s'.Inv := by
  have hn := hp.nodup_iff.mp h.nodup
  refine ⟨(List.nodup_cons.mp hn).2, fun id hid => hf ▸ h.lt id (hp.mem_iff.mpr (List.mem_cons_of_mem _ hid)), h3, h4, h5⟩

theorem Sys.Inv.of_more {s s' : Sys} (h : s.Inv) (hp : s'.hands.Perm (s.fresh :: s.hands)) (hf : s'.fresh = s.fresh + 1)
    (h3 : ∀ it ∈ s'.pool, it.kind = .ptr) (h4 : ∀ lp ∈ s'.loops, ∀ it, lp.held = some it → it.kind = .ptr)
    (h5 : s'.crashed = false) : s'.Inv := by
  refine ⟨hp.nodup_iff.mpr (List.nodup_cons.mpr ⟨fun hm => Nat.lt_irrefl _ (h.lt _ hm), h.nodup⟩),
    fun id hid => ?_, h3, h4, h5⟩
  rw [hf]
  rcases List.mem_cons.mp (hp.mem_iff.mp hid) with rfl | hm
  · exact Nat.lt_succ_self _
  · exact Nat.lt_succ_of_lt (h.lt id hm)

theorem heldPtr_set {s : Sys} (h : s.Inv) {l : Nat} {x : Loop} (hx : ∀ it, x.held = some it → it.kind = .ptr) :
    ∀ lp ∈ s.loops.set l x, ∀ it, lp.held = some it → it.kind = .ptr := by
  intro lp hlp it hit
  rcases List.mem_or_eq_of_mem_set hlp with hm | rfl
  · exact h.heldPtr lp hm it hit
  · exact hx it hit

/-- The invariant is carried along a step by how the hands change: they are rearranged (`of_perm`: a buffer moves
from the pool to a loop, from a loop to a handler, from a handler to the pool), there is one less (`of_less`: the pool
forgets a value, a loop returns), or there is the one `New` made (`of_more`). -/
theorem Sys.Inv.step {md : Nat} {s : Sys} (h : s.Inv) (e : Ev) : (s.step (code md) e).Inv := by
  have hc := h.alive
  unfold Sys.step
  rw [if_neg (by simp [hc])]
  cases e with
  | get l pick =>
    dsimp only
    cases hl : s.loops[l]? with
    | none => exact h
    | some lp =>
      dsimp only
      by_cases hg : lp.live = false ∨ lp.held ≠ none
      · simp only [hg, if_true]; exact h
      · simp only [hg, if_false]
        have hheld : lp.held = none := Decidable.of_not_not fun hn => hg (Or.inr hn)
        have hid : Loop.heldId lp = none := by simp [Loop.heldId, hheld]
        cases pick with
        | none =>
          dsimp only
          -- the loop takes the buffer `New` makes
          have hL : ((s.loops.set l { lp with held := some ⟨.ptr, ⟨s.fresh, md⟩⟩ }).filterMap Loop.heldId).Perm
              (s.fresh :: s.loops.filterMap Loop.heldId) :=
            perm_filterMap_set_some Loop.heldId hl hid rfl
          have hK : ∀ it, (some ⟨.ptr, ⟨s.fresh, md⟩⟩ : Option Item) = some it → it.kind = .ptr := by
            intro it hit
            cases hit
            rfl
          exact h.of_more (perm3_mid hL) rfl h.poolPtr (heldPtr_set h hK) hc
        | some i =>
          dsimp only
          cases hpi : s.pool[i]? with
          | none => exact h
          | some it =>
            dsimp only
            -- the loop takes a buffer from the pool
            have hP := (perm_eraseIdx hpi).map (fun (it : Item) => it.buf.id)
            have hL : ((s.loops.set l { lp with held := some it }).filterMap Loop.heldId).Perm
                (it.buf.id :: s.loops.filterMap Loop.heldId) :=
              perm_filterMap_set_some Loop.heldId hl hid rfl
            have hK : ∀ it', some it = some it' → it'.kind = .ptr := by
              intro it' hit'
              cases hit'
              exact h.poolPtr _ (List.mem_of_getElem? hpi)
            exact h.of_perm ((perm3_mid hL).trans (perm3_left hP).symm) rfl
              (fun it' hit' => h.poolPtr it' (List.mem_of_mem_eraseIdx hit')) (heldPtr_set h hK) hc
  | read l r =>
    dsimp only
    cases hl : s.loops[l]? with
    | none => exact h
    | some lp =>
      dsimp only
      cases hheld : lp.held with
      | none => exact h
      | some it =>
        dsimp only
        have hk : it.kind = .ptr := h.heldPtr lp (List.mem_of_getElem? hl) it hheld
        have hid : Loop.heldId lp = some it.buf.id := by simp [Loop.heldId, hheld]
        obtain ⟨k, b⟩ := it
        cases hk
        simp only [code, iter_ptr]
        -- the loop lets go of the buffer, whichever way the iteration ends
        have hL : ∀ x : Loop, x.held = none →
            (s.loops.filterMap Loop.heldId).Perm (b.id :: (s.loops.set l x).filterMap Loop.heldId) := by
          intro x hx
          refine perm_filterMap_set_none Loop.heldId hl hid ?_
          rw [Loop.heldId, hx]
          rfl
        have hK : ∀ x : Loop, x.held = none → ∀ lp' ∈ s.loops.set l x, ∀ it, lp'.held = some it → it.kind = .ptr := by
          intro x hx
          refine heldPtr_set h fun it hit => ?_
          rw [hx] at hit
          cases hit
        cases r.err
        · -- a datagram: the handler spawned takes the buffer
          exact h.of_perm ((perm3_right (perm_map_concat _ _ _)).trans (perm3_mid (hL _ rfl)).symm) rfl h.poolPtr
            (hK _ rfl) hc
        -- `return nil`, `return err`: nobody does
        all_goals exact h.of_less (perm3_mid (hL _ rfl)) rfl h.poolPtr (hK _ rfl) hc
  | head j ok =>
    dsimp only
    cases hj : s.handlers[j]? with
    | none => exact h
    | some hd =>
      have hu : usedAfterPut ((code md).head hd.fam ok).events = false := by cases ok <;> rfl
      have hq : putsOf ((code md).head hd.fam ok).events = [.ptr] := by cases ok <;> rfl
      simp only [hu, hq, Bool.false_eq_true, if_false, List.map_cons, List.map_nil]
      have hH := (perm_eraseIdx hj).map (fun (h : Handler) => h.buf.id)
      refine h.of_perm ((perm3_left (perm_map_concat _ _ _)).trans (perm3_right hH).symm) rfl ?_ h.heldPtr hc
      intro it hit
      rcases List.mem_append.mp hit with hm | hm
      · exact h.poolPtr it hm
      · cases List.mem_singleton.mp hm
        rfl
  | drop i =>
    dsimp only
    cases hpi : s.pool[i]? with
    | none =>
      have : s.pool.eraseIdx i = s.pool := List.eraseIdx_of_length_le (by simpa using hpi)
      rw [this]
      exact h
    | some it =>
      have hP := (perm_eraseIdx hpi).map (fun (it : Item) => it.buf.id)
      exact h.of_less (s' := { s with pool := s.pool.eraseIdx i }) (perm3_left hP) rfl
        (fun it' hit' => h.poolPtr it' (List.mem_of_mem_eraseIdx hit')) h.heldPtr hc

theorem Sys.Inv.run {md : Nat} {s : Sys} (h : s.Inv) (evs : List Ev) : (s.run (code md) evs).Inv := by
  induction evs generalizing s with
  | nil => exact h
  | cons e rest ih => exact ih (h.step e)

end ServeLoop

/-- For any number of `Serve` loops (of either family) sharing the one pool, any answers of the world and ANY
interleaving of the loops' steps, the handlers' heads and the pool forgetting values (a list of events, by induction):
no buffer is in two hands at once — the identities in the pool, held by a loop between its `Get` and the end of its
iteration, and held by handlers between their spawn and their `Put` are pairwise different — and no type assertion
on a value of the pool ever fails (the process is never taken down by it). -/
theorem SERVE_no_two_owners (md : Nat) (fams : List Fam) (evs : List Ev) :
    ((Sys.init fams).run (code md) evs).hands.Nodup ∧ ((Sys.init fams).run (code md) evs).crashed = false :=
  ⟨((Sys.Inv.init fams).run evs).nodup, ((Sys.Inv.init fams).run evs).alive⟩

theorem SERVE_no_two_owners_gen (fams : List Fam) (evs : List Ev) :
    ((Sys.init fams).run GenServeLoop.code evs).hands.Nodup ∧ ((Sys.init fams).run GenServeLoop.code evs).crashed = false := by
  rw [GEN_serve_code_eq]
  exact SERVE_no_two_owners _ fams evs

/-- spelled out: a buffer in the pool is held by no loop and no handler, a buffer a loop reads into is held by no
handler, and nothing holds a buffer twice -/
theorem SERVE_no_two_owners_apart (md : Nat) (fams : List Fam) (evs : List Ev) (id : Nat) :
    let s := (Sys.init fams).run (code md) evs
    (id ∈ s.pool.map (·.buf.id) → id ∉ s.loops.filterMap Loop.heldId ∧ id ∉ s.handlers.map (·.buf.id)) ∧
    (id ∈ s.loops.filterMap Loop.heldId → id ∉ s.handlers.map (·.buf.id)) := by
  intro s
  have hn : s.hands.Nodup := (SERVE_no_two_owners md fams evs).1
  unfold Sys.hands at hn
  rw [List.nodup_append] at hn
  obtain ⟨h12, _, h3⟩ := hn
  rw [List.nodup_append] at h12
  obtain ⟨_, _, h2⟩ := h12
  refine ⟨fun hp => ⟨fun hl => h2 id hp id hl rfl, fun hh => h3 id (List.mem_append_left _ hp) id hh rfl⟩,
    fun hl hh => h3 id (List.mem_append_right _ hl) id hh rfl⟩

/-- what C16 needs of the receive side: at every moment of every run, when a loop calls `ReadFrom`, the buffer the
datagram is written into has `md` bytes and is in no other hand — not in the pool (no other loop can take it) and
held by no handler (no handler of an earlier datagram can still be parsing it) -/
theorem SERVE_read_into_unshared (md : Nat) (fams : List Fam) (evs : List Ev) (l : Nat) (lp : Loop) (it : Item)
    (r : Read) (into : Buf) (next : Next) :
    let s := (Sys.init fams).run (code md) evs
    s.loops[l]? = some lp → lp.held = some it → iter lp.fam md it r = .ran into next →
    into.len = md ∧ into.id ∉ s.pool.map (·.buf.id) ∧ into.id ∉ s.handlers.map (·.buf.id) := by
  intro s hl hheld hit
  obtain ⟨hlen, hid⟩ := SERVE_reads_full_buffer _ _ _ _ _ _ hit
  have hmem : into.id ∈ s.loops.filterMap Loop.heldId :=
    List.mem_filterMap.mpr ⟨lp, List.mem_of_getElem? hl, by simp [Loop.heldId, hheld, hid]⟩
  have ha := SERVE_no_two_owners_apart md fams evs into.id
  exact ⟨hlen, fun hp => (ha.1 hp).1 hmem, ha.2 hmem⟩

/-- a run that goes round: two loops share the pool; loop 0 gets a new buffer (0), reads 300 bytes, its handler puts
`b[:300]` back; loop 1 then takes that same buffer from the pool and reads into all 65536 bytes of it while the
handler of a second datagram of loop 0 (buffer 1) is still waiting -/
example :
    let s := (Sys.init [.v6, .v4]).run (code 65536)
      [.get 0 none, .read 0 ⟨300, 1, 2, .none⟩, .get 0 none, .head 0 true, .read 0 ⟨200, 3, 4, .none⟩, .get 1 (some 0)]
    s.pool = [] ∧ s.loops = [⟨.v6, none, true⟩, ⟨.v4, some ⟨.ptr, ⟨0, 300⟩⟩, true⟩] ∧ s.handlers = [⟨.v6, ⟨1, 200⟩⟩] ∧
    s.hands = [0, 1] := by decide

/-- the statement is not vacuous: the same system run with a head that puts the buffer back TWICE has a buffer in
two hands (twice in the pool, and then with two loops reading into it at once) -/
example :
    let bad : Code := { code 65536 with head := fun _ _ => ⟨[.parse, .put .ptr, .put .ptr], false⟩ }
    let s := (Sys.init [.v6, .v4]).run bad [.get 0 none, .read 0 ⟨300, 1, 2, .none⟩, .head 0 false, .get 0 (some 0), .get 1 (some 0)]
    s.hands = [0, 0] ∧ ¬ s.hands.Nodup := by decide

/-- … and with a head that puts the SLICE back, the next `Get` of that value takes the process down -/
example :
    let bad : Code := { code 65536 with head := fun _ _ => ⟨[.parse, .put .slice], false⟩ }
    ((Sys.init [.v4]).run bad [.get 0 none, .read 0 ⟨300, 1, 2, .none⟩, .head 0 false, .get 0 (some 0),
      .read 0 ⟨100, 3, 4, .none⟩]).crashed = true := by decide

end CoreDhcp
