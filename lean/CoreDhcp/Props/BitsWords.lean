/-
Refinement of the word-level model of bits-and-blooms/bitset (Model/BitsWords.lean) to the
list-of-booleans model (Model/Bits.lean) that the allocator models Alloc4/Alloc6 use.

  abstraction      `WBits.toList` / `WBits.toBits` : the first `length` bits, read from the words
  invariant        `WBits.WF` : ⌈length/64⌉ words, all bits at or beyond `length` are zero
New, Set and Clear refine by `Bits.ext`: the same length and, bit by bit, the same `test`; Len and
Test directly.  For NextClear both the word-level answer (`nextClear_spec`, through `word_step`) and
the list model's (`nextClearFrom_spec`) satisfy `Bits.IsNextClear`, which determines the answer.

Why the invariant matters (checked in the library source, v1.22.0): `Set(i)` with i ≥ length in
the SAME last word only bumps `length`; the newly exposed positions are clear only because nothing
ever wrote beyond `length`.  `Set` writes bit i < new length, `Clear` returns early for
i ≥ length, `New`/`extendSet` add zero words — so New/Set/Clear maintain it.  (Other library
calls, which the allocators do not use, need `cleanLastWord` to restore it: Flip ranges,
Complement, Shrink/Compact, `From(words)` ….)  `example`s at the end show a non-WF value on which
the refinement fails.
-/
import CoreDhcp.Model.BitsWords
import CoreDhcp.Proofs.Bits
namespace CoreDhcp
namespace WBits
open Bits (IsNextClear)

theorem shr6 (i : Nat) : i >>> 6 = i / 64 := by
  rw [Nat.shiftRight_eq_div_pow]

theorem and63 (i : Nat) : i &&& 63 = i % 64 := by
  simpa using Nat.and_two_pow_sub_one_eq_mod i 6

theorem mask_eq (i : Nat) : mask i = BitVec.twoPow 64 (i % 64) := by
  rw [mask, and63, BitVec.shiftLeft_eq_mul_twoPow, BitVec.one_mul]

theorem mask_bit (i k : Nat) : (mask i).getLsbD k = decide (k = i % 64) := by
  have : i % 64 < 64 := Nat.mod_lt _ (by decide)
  rw [mask_eq, BitVec.getLsbD_twoPow, decide_eq_true this, Bool.true_and]
  exact decide_eq_decide.mpr eq_comm

theorem and_mask_ne_zero (w : BitVec 64) (i : Nat) : ((w &&& mask i) != 0) = w.getLsbD (i % 64) := by
  have hk : i % 64 < 64 := Nat.mod_lt _ (by decide)
  rw [mask_eq, BitVec.and_twoPow]
  cases w.getLsbD (i % 64)
  · rfl
  · rw [if_pos rfl]
    refine congrArg Bool.not (decide_eq_false fun e => ?_)
    have := congrArg (·.getLsbD (i % 64)) e
    simp [hk] at this

/-- bit `j` of the representation, read from the words (0 beyond the stored words) -/
def bit (b : WBits) (j : Nat) : Bool := (b.word (j / 64)).getLsbD (j % 64)

/-- the abstraction: the first `length` bits as a list of booleans -/
def toList (b : WBits) : List Bool := (List.range b.length).map b.bit

def toBits (b : WBits) : Bits := ⟨b.toList⟩

/-- representation invariant: exactly ⌈length/64⌉ words, and every bit at or beyond `length` is 0 -/
def WF (b : WBits) : Prop :=
  b.words.length = (b.length + 63) / 64 ∧ ∀ j, b.length ≤ j → b.bit j = false

theorem WF.words_length {b : WBits} (hw : b.WF) : b.words.length = (b.length + 63) / 64 := hw.1

theorem WF.div_lt {b : WBits} (hw : b.WF) {i : Nat} (h : i < b.length) : i / 64 < b.words.length := by
  rw [hw.words_length]
  omega

theorem WF.bit_of_ge {b : WBits} (hw : b.WF) (j : Nat) (h : b.length ≤ j) : b.bit j = false :=
  hw.2 j h

theorem toList_length (b : WBits) : b.toList.length = b.length := by
  rw [toList, List.length_map, List.length_range]

theorem toList_getElem? (b : WBits) (j : Nat) :
    b.toList[j]? = if j < b.length then some (b.bit j) else none := by
  unfold toList
  by_cases h : j < b.length
  · simp [h]
  · simp [h]

theorem wordsNeeded_eq (n : Nat) : wordsNeeded n = (n + 63) / 64 := by
  rw [wordsNeeded, shr6]

theorem getD_append_zeros (ws : List (BitVec 64)) (n k : Nat) :
    (ws ++ List.replicate n (0 : BitVec 64)).getD k 0 = ws.getD k 0 := by
  simp only [List.getD_eq_getElem?_getD]
  by_cases h : k < ws.length
  · rw [List.getElem?_append_left h]
  · have h' : ws.length ≤ k := Nat.le_of_not_lt h
    rw [List.getElem?_append_right h', List.getElem?_eq_none_iff.mpr h']
    simp only [List.getElem?_replicate]
    split <;> rfl

theorem getD_set (ws : List (BitVec 64)) (x : Nat) (v : BitVec 64) (k : Nat) (hx : x < ws.length) :
    (ws.set x v).getD k 0 = if k = x then v else ws.getD k 0 := by
  simp only [List.getD_eq_getElem?_getD, List.getElem?_set]
  by_cases h : x = k
  · subst h
    simp [hx]
  · have h' : ¬ k = x := fun e => h e.symm
    simp [h, h']

theorem bit_extendSet (b : WBits) (i j : Nat) : (b.extendSet i).bit j = b.bit j := by
  unfold extendSet bit word
  simp only [getD_append_zeros]

theorem bit_setWord_at (b : WBits) (i j : Nat) (v : BitVec 64) (h : i / 64 < b.words.length)
    (hv : ∀ k, k < 64 → k ≠ i % 64 → v.getLsbD k = (b.word (i / 64)).getLsbD k) :
    bit ⟨b.length, b.words.set (i / 64) v⟩ j = if j = i then v.getLsbD (i % 64) else b.bit j := by
  unfold bit word
  rw [getD_set _ _ _ _ h]
  by_cases e : j = i
  · rw [if_pos (by rw [e]), if_pos e, e]
  · rw [if_neg e]
    split
    · next e2 =>
      rw [e2]
      -- same word, other index: another position in the word
      refine hv _ (Nat.mod_lt _ (by decide)) fun hm => e ?_
      rw [← Nat.div_add_mod j 64, ← Nat.div_add_mod i 64, e2, hm]
    · rfl

theorem bit_orMask (b : WBits) (i j : Nat) (h : i / 64 < b.words.length) :
    bit ⟨b.length, b.words.set (i >>> 6) (b.word (i >>> 6) ||| mask i)⟩ j
      = (decide (j = i) || b.bit j) := by
  rw [shr6, bit_setWord_at b i j _ h, BitVec.getLsbD_or, mask_bit, decide_eq_true rfl, Bool.or_true]
  · by_cases e : j = i
    · rw [if_pos e, decide_eq_true e, Bool.true_or]
    · rw [if_neg e, decide_eq_false e, Bool.false_or]
  · intro k _ hne
    rw [BitVec.getLsbD_or, mask_bit, decide_eq_false hne, Bool.or_false]

theorem bit_andNotMask (b : WBits) (i j : Nat) (h : i / 64 < b.words.length) :
    bit ⟨b.length, b.words.set (i >>> 6) (b.word (i >>> 6) &&& ~~~ mask i)⟩ j
      = (!decide (j = i) && b.bit j) := by
  rw [shr6, bit_setWord_at b i j _ h, BitVec.getLsbD_and, BitVec.getLsbD_not, mask_bit,
    decide_eq_true rfl, Bool.not_true, Bool.and_false, Bool.and_false]
  · by_cases e : j = i
    · rw [if_pos e, decide_eq_true e, Bool.not_true, Bool.false_and]
    · rw [if_neg e, decide_eq_false e, Bool.not_false, Bool.true_and]
  · intro k hk hne
    rw [BitVec.getLsbD_and, BitVec.getLsbD_not, mask_bit, decide_eq_false hne, Bool.not_false,
      decide_eq_true hk, Bool.and_true, Bool.and_true]

theorem new_bit (n j : Nat) : (WBits.new n).bit j = false := by
  unfold bit word WBits.new
  have := getD_append_zeros [] (wordsNeeded n) (j / 64)
  rw [List.nil_append] at this
  rw [this]
  exact BitVec.getLsbD_zero

/-- `New(n)` satisfies the representation invariant (for every n, incl. 0 and non-multiples of 64). -/
theorem BITSW_wf_new (n : Nat) : (WBits.new n).WF :=
  ⟨by rw [WBits.new, List.length_replicate, wordsNeeded_eq], fun j _ => new_bit n j⟩

theorem BITSW_len_refines (b : WBits) : b.len = b.toBits.length :=
  (toList_length b).symm

theorem test_toBits {b : WBits} (hw : b.WF) (j : Nat) : b.toBits.test j = b.bit j := by
  rw [Bits.test_eq, toBits, toList_getElem?]
  split
  · rfl
  · exact (hw.bit_of_ge j (by omega)).symm

/-- `New(n)` is the list model's `new n`: n clear bits. -/
theorem BITSW_new_refines (n : Nat) : (WBits.new n).toBits = Bits.new n := by
  apply Bits.ext
  · rw [← BITSW_len_refines, Bits.length_new]
    rfl
  · intro j _
    rw [test_toBits (BITSW_wf_new n), new_bit, Bits.test_new]

/-- `Test(i)` on the words is the list model's `test` (no invariant needed: the guard
`i >= length` answers before any word is read). -/
theorem BITSW_test_refines (b : WBits) (i : Nat) : b.test i = b.toBits.test i := by
  unfold test
  by_cases h : i ≥ b.length
  · rw [if_pos h, Bits.test_of_ge b.toBits i (le_of_eq_of_le (toList_length b) h)]
  · rw [if_neg h, and_mask_ne_zero, shr6, Bits.test_eq, toBits, toList_getElem?,
      if_pos (Nat.lt_of_not_le h)]
    rfl

/-! `Set(i)`: extend to length `i + 1` if need be (`extendSet`), then write inside the length. -/

theorem set_of_lt (b : WBits) (i : Nat) (h : i < b.length) :
    b.set i = ⟨b.length, b.words.set (i >>> 6) (b.word (i >>> 6) ||| mask i)⟩ := by
  unfold set
  rw [if_neg (Nat.not_le.mpr h)]

theorem set_of_ge (b : WBits) (i : Nat) (h : b.length ≤ i) : b.set i = (b.extendSet i).set i := by
  rw [set_of_lt (b.extendSet i) i (Nat.lt_succ_self i)]
  unfold set
  rw [if_pos h]

theorem extendSet_wf {b : WBits} (hw : b.WF) (i : Nat) (h : b.length ≤ i) : (b.extendSet i).WF := by
  constructor
  · simp only [extendSet, List.length_append, List.length_replicate, wordsNeeded_eq]
    -- the old words are not more than the new length needs
    apply Nat.add_sub_cancel'
    rw [hw.words_length]
    exact Nat.div_le_div_right (Nat.add_le_add_right (Nat.le_succ_of_le h) 63)
  · intro j hj
    rw [bit_extendSet]
    exact hw.bit_of_ge j (Nat.le_trans h (Nat.le_of_succ_le hj))

theorem set_spec_lt {b : WBits} (hw : b.WF) (i : Nat) (h : i < b.length) :
    (b.set i).WF ∧ (b.set i).length = b.length ∧
      ∀ j, (b.set i).bit j = (decide (j = i) || b.bit j) := by
  have hx := hw.div_lt h
  rw [set_of_lt b i h]
  refine ⟨⟨(List.length_set ..).trans hw.words_length, fun j hj => ?_⟩, rfl, fun j => bit_orMask b i j hx⟩
  rw [bit_orMask b i j hx, hw.bit_of_ge j hj, decide_eq_false (Nat.ne_of_gt (Nat.lt_of_lt_of_le h hj))]
  rfl

theorem set_spec {b : WBits} (hw : b.WF) (i : Nat) :
    (b.set i).WF ∧ (b.set i).length = max b.length (i + 1) ∧
      ∀ j, (b.set i).bit j = (decide (j = i) || b.bit j) := by
  by_cases h : i < b.length
  · obtain ⟨h1, h2, h3⟩ := set_spec_lt hw i h
    exact ⟨h1, h2.trans (Nat.max_eq_left (Nat.succ_le_of_lt h)).symm, h3⟩
  · have h : b.length ≤ i := Nat.le_of_not_lt h
    obtain ⟨h1, h2, h3⟩ := set_spec_lt (extendSet_wf hw i h) i (Nat.lt_succ_self i)
    rw [set_of_ge b i h]
    refine ⟨h1, h2.trans ?_, fun j => (h3 j).trans (by rw [bit_extendSet])⟩
    exact (Nat.max_eq_right (Nat.le_succ_of_le h)).symm

theorem set_length {b : WBits} (hw : b.WF) (i : Nat) :
    (b.set i).length = max b.length (i + 1) :=
  (set_spec hw i).2.1

theorem set_bit (b : WBits) (hw : b.WF) (i j : Nat) :
    (b.set i).bit j = (decide (j = i) || b.bit j) :=
  (set_spec hw i).2.2 j

/-- `Set(i)` keeps the invariant — also when it extends the set, inside the last word (the new
positions were zero because of the invariant) or by whole zero words. -/
theorem BITSW_wf_set (b : WBits) (hw : b.WF) (i : Nat) : (b.set i).WF :=
  (set_spec hw i).1

/-- `Set(i)` on the words is the list model's `set`: inside the length it turns bit i on; at or
beyond the length the set grows to length i+1, the new positions below i are clear, bit i is on. -/
theorem BITSW_set_refines (b : WBits) (hw : b.WF) (i : Nat) : (b.set i).toBits = b.toBits.set i := by
  apply Bits.ext
  · rw [Bits.length_set, ← BITSW_len_refines, ← BITSW_len_refines]
    exact set_length hw i
  · intro j _
    rw [Bits.test_set, test_toBits (BITSW_wf_set b hw i), test_toBits hw, set_bit b hw]

theorem clear_length (b : WBits) (i : Nat) : (b.clear i).length = b.length := by
  unfold clear
  split <;> rfl

theorem clear_bit (b : WBits) (hw : b.WF) (i j : Nat) :
    (b.clear i).bit j = (!decide (j = i) && b.bit j) := by
  unfold clear
  split
  · next h =>
    by_cases e : j = i
    · rw [e, hw.bit_of_ge i h, Bool.and_false]
    · rw [decide_eq_false e]
      rfl
  · next h => exact bit_andNotMask b i j (hw.div_lt (Nat.lt_of_not_le h))

theorem BITSW_wf_clear (b : WBits) (hw : b.WF) (i : Nat) : (b.clear i).WF := by
  constructor
  · rw [clear_length]
    unfold clear
    split
    · exact hw.words_length
    · exact (List.length_set ..).trans hw.words_length
  · intro j hj
    rw [clear_length] at hj
    rw [clear_bit b hw, hw.bit_of_ge j hj, Bool.and_false]

/-- `Clear(i)` on the words is the list model's `clear`: bit i off inside the length, nothing
at or beyond it (no extension, no panic). -/
theorem BITSW_clear_refines (b : WBits) (hw : b.WF) (i : Nat) : (b.clear i).toBits = b.toBits.clear i := by
  apply Bits.ext
  · rw [Bits.length_clear, ← BITSW_len_refines, ← BITSW_len_refines]
    exact clear_length b i
  · intro j _
    rw [Bits.test_clear, test_toBits (BITSW_wf_clear b hw i), test_toBits hw, clear_bit b hw]

/-- `Bits.IsNextClear.unique` under the name Audit.lean prints the axioms of -/
theorem IsNextClear_unique {f : Nat → Bool} {n i : Nat} {r1 r2 : Option Nat}
    (h1 : IsNextClear f n i r1) (h2 : IsNextClear f n i r2) : r1 = r2 :=
  h1.unique h2

/-- `TrailingZeros64`: 64 when no bit is set, otherwise the position of the lowest set bit. -/
theorem ctz_spec (w : BitVec 64) :
    (ctz w = 64 ∧ ∀ k, k < 64 → w.getLsbD k = false) ∨
    (ctz w < 64 ∧ w.getLsbD (ctz w) = true ∧ ∀ j, j < ctz w → w.getLsbD j = false) := by
  unfold ctz
  cases h : (List.range 64).find? (fun k => w.getLsbD k) with
  | none =>
    left
    rw [List.find?_range_eq_none] at h
    refine ⟨rfl, ?_⟩
    intro k hk
    simpa using h k hk
  | some k =>
    right
    rw [List.find?_range_eq_some] at h
    obtain ⟨a, b, c⟩ := h
    simp only [Option.getD_some]
    refine ⟨List.mem_range.mp b, a, ?_⟩
    intro j hj
    simpa using c j hj

theorem div_mod_64 (q j : Nat) (hj : j < 64) : (q * 64 + j) / 64 = q ∧ (q * 64 + j) % 64 = j := by
  rw [Nat.mul_comm, Nat.mul_add_div (by decide), Nat.mul_add_mod, Nat.div_eq_of_lt hj,
    Nat.mod_eq_of_lt hj]
  exact ⟨rfl, rfl⟩

theorem ite_and_decide {α : Type} (a : Bool) (q : Prop) [Decidable q] (x y : α) :
    (if (a && decide q) = true then x else y) = if a = true then (if q then x else y) else y := by
  cases a <;> simp

theorem allBits_shift_bit (s k : Nat) : (allBits >>> s).getLsbD k = decide (s + k < 64) := by
  rw [BitVec.getLsbD_ushiftRight, allBits, BitVec.getLsbD_allOnes]

/-- `TrailingZeros64(^w)` is the least clear position of `w`, 64 if there is none. -/
theorem ctz_not (w : BitVec 64) :
    (∀ j, j < ctz (~~~ w) → j < 64 ∧ w.getLsbD j = true) ∧
      (ctz (~~~ w) < 64 → w.getLsbD (ctz (~~~ w)) = false) := by
  have hnot : ∀ j, j < 64 → (~~~ w).getLsbD j = !w.getLsbD j := by
    intro j hj
    rw [BitVec.getLsbD_not, decide_eq_true hj, Bool.true_and]
  rcases ctz_spec (~~~ w) with ⟨hc, hz⟩ | ⟨hc, hbit, hlow⟩
  · rw [hc]
    refine ⟨fun j hj => ⟨hj, ?_⟩, fun h => absurd h (Nat.lt_irrefl _)⟩
    have := hz j hj
    rwa [hnot j hj, Bool.not_eq_false'] at this
  · refine ⟨fun j hj => ?_, fun _ => ?_⟩
    · have hj64 : j < 64 := Nat.lt_trans hj hc
      have := hlow j hj
      rw [hnot j hj64, Bool.not_eq_false'] at this
      exact ⟨hj64, this⟩
    · rwa [hnot _ hc, Bool.not_eq_true'] at hbit

/-- One step of `NextClear` on a word `w` that holds the bits of `f` from `base` on, shifted down
by `s` (`s = 0` for a whole word): the answer is in this word, or it is the answer `r` for the
words that follow. -/
theorem word_step (f : Nat → Bool) (n base s : Nat) (w : BitVec 64) (r : Option Nat)
    (hlow : ∀ k, s + k < 64 → f (base + k) = w.getLsbD k)
    (hhigh : ∀ k, ¬ s + k < 64 → w.getLsbD k = false)
    (hr : IsNextClear f n (base + (64 - s)) r) :
    IsNextClear f n base
      (if (w != allBits >>> s && decide (base + ctz (~~~ w) < n)) = true
        then some (base + ctz (~~~ w)) else r) := by
  obtain ⟨hset, hclr⟩ := ctz_not w
  generalize ctz (~~~ w) = c at hset hclr ⊢
  -- the idea: `w` differs from the shifted all-ones word exactly when its least clear position
  -- `c` is below `64 - s`
  have hne : (w != allBits >>> s) = decide (s + c < 64) := by
    show (!decide (w = allBits >>> s)) = _
    by_cases h : s + c < 64
    · have hw : ¬ w = allBits >>> s := fun e => by
        have := hclr (Nat.lt_of_le_of_lt (Nat.le_add_left c s) h)
        rw [e, allBits_shift_bit, decide_eq_true h] at this
        cases this
      rw [decide_eq_true h, decide_eq_false hw]
      rfl
    · have hw : w = allBits >>> s := by
        apply BitVec.eq_of_getLsbD_eq
        intro k _
        rw [allBits_shift_bit]
        by_cases q : s + k < 64
        · rw [(hset k (by omega)).2, decide_eq_true q]
        · rw [hhigh k q, decide_eq_false q]
      rw [decide_eq_false h, decide_eq_true hw]
      rfl
  have hf : ∀ j, base ≤ j → j - base < c → s + (j - base) < 64 → f j = true := by
    intro j h1 h2 h3
    have := hlow (j - base) h3
    rw [Nat.add_sub_cancel' h1] at this
    rw [this]
    exact (hset _ h2).2
  by_cases h : s + c < 64 ∧ base + c < n
  · rw [hne, decide_eq_true h.1, decide_eq_true h.2, Bool.and_self, if_pos rfl]
    refine ⟨Nat.le_add_right _ _, h.2, ?_, fun j h1 h2 => ?_⟩
    · rw [hlow c h.1]
      exact hclr (Nat.lt_of_le_of_lt (Nat.le_add_left c s) h.1)
    · have hjc := Nat.sub_lt_left_of_lt_add h1 h2
      exact hf j h1 hjc (Nat.lt_trans (Nat.add_lt_add_left hjc s) h.1)
  · rw [hne, ← Bool.decide_and, if_neg (mt of_decide_eq_true h)]
    apply IsNextClear.lift hr (Nat.le_add_right ..)
    intro j h1 h2 h3
    have hj : s + (j - base) < 64 := Nat.add_lt_of_lt_sub' (Nat.sub_lt_left_of_lt_add h1 h2)
    exact hf j h1 (by omega) hj

/-- the loop over the following whole words finds the least clear position from the start of
word `x` on, provided `ws` are the words from index `x` and they cover the length. -/
theorem scan_spec (f : Nat → Bool) (n : Nat) : ∀ (ws : List (BitVec 64)) (x : Nat),
    (∀ k j, j < 64 → f ((x + k) * 64 + j) = (ws.getD k 0).getLsbD j) →
    n ≤ (x + ws.length) * 64 →
    IsNextClear f n (x * 64) (scan n x ws) := by
  intro ws
  induction ws with
  | nil =>
    intro x _ hn j h1 h2
    simp at hn
    omega
  | cons w ws ih =>
    intro x hf hn
    -- `word_step` at shift 0 wants the answer for the rest from `x * 64 + (64 - 0)` on
    have hrec : IsNextClear f n (x * 64 + (64 - 0)) (scan n (x + 1) ws) := by
      rw [Nat.sub_zero, ← Nat.succ_mul]
      apply ih
      · intro k j hj
        have := hf (k + 1) j hj
        rw [List.getD_cons_succ] at this
        rw [Nat.add_assoc x 1 k, Nat.add_comm 1 k]
        exact this
      · rw [List.length_cons, ← Nat.add_assoc, Nat.add_right_comm] at hn
        exact hn
    have hlow : ∀ k, 0 + k < 64 → f (x * 64 + k) = w.getLsbD k := by
      intro k hk
      have := hf 0 k (by omega)
      rwa [List.getD_cons_zero] at this
    have := word_step f n (x * 64) 0 w _ hlow
      (fun k hk => BitVec.getLsbD_of_ge w k (Nat.zero_add k ▸ Nat.le_of_not_lt hk)) hrec
    rw [BitVec.ushiftRight_zero, ite_and_decide] at this
    rw [scan]
    exact this

/-- The word-level `NextClear(i)` meets the specification on the bits of the representation:
first (partial) word shifted down by i%64 and compared with the shifted all-ones word, then the
following whole words; an index at or beyond the length is never returned; `(0,false)` exactly
when no clear bit exists from i up to the length (this includes i/64 ≥ number of words). -/
theorem nextClear_spec (b : WBits) (hw : b.WF) (i : Nat) :
    IsNextClear b.bit b.length i (b.nextClear i) := by
  unfold nextClear
  simp only [shr6, and63]
  -- `i = q * 64 + r`: word `q`, position `r`
  obtain ⟨q, r, hr, rfl⟩ : ∃ q r, r < 64 ∧ i = q * 64 + r :=
    ⟨i / 64, i % 64, Nat.mod_lt _ (by decide), (Nat.div_add_mod' i 64).symm⟩
  rw [(div_mod_64 q r hr).1, (div_mod_64 q r hr).2]
  have hlen := hw.words_length
  by_cases hx : q ≥ b.words.length
  · rw [if_pos hx]
    intro j h1 h2
    omega
  · rw [if_neg hx]
    apply word_step
    · intro k hk
      rw [BitVec.getLsbD_ushiftRight]
      unfold bit
      rw [Nat.add_assoc, (div_mod_64 q (r + k) hk).1, (div_mod_64 q (r + k) hk).2]
    · intro k hk
      rw [BitVec.getLsbD_ushiftRight]
      exact BitVec.getLsbD_of_ge _ _ (Nat.le_of_not_lt hk)
    · rw [Nat.add_assoc, Nat.add_sub_cancel' (Nat.le_of_lt hr), ← Nat.succ_mul]
      apply scan_spec
      · intro k j hj
        unfold bit word
        rw [(div_mod_64 (q + 1 + k) j hj).1, (div_mod_64 (q + 1 + k) j hj).2]
        simp only [List.getD_eq_getElem?_getD, List.getElem?_drop]
      · rw [List.length_drop]
        omega

/-- the list model's `nextClearFrom` meets the same specification (`Bits.nextClearFrom_spec`, read
on the bits of the representation) -/
theorem nextClearFrom_spec (b : WBits) (i : Nat) :
    IsNextClear b.bit b.length i (b.toBits.nextClearFrom i) := by
  have h := Bits.nextClearFrom_spec b.toBits i
  rw [← BITSW_len_refines] at h
  refine IsNextClear.congr (fun j hj => ?_) h
  rw [Bits.test_eq, toBits, toList_getElem?, if_pos hj]
  rfl

/-- `NextClear(i)` on the words is the list model's answer for every start index, every length
(0, non-multiples of 64) — `some k` with k the least clear index ≥ i below the length, `none`
(the library's `(0, false)`) exactly when there is none. -/
theorem BITSW_nextClear_refines (b : WBits) (hw : b.WF) (i : Nat) :
    b.nextClear i = b.toBits.nextClearFrom i :=
  IsNextClear.unique (nextClear_spec b hw i) (nextClearFrom_spec b i)

/-- the list model's `nextClear` (what the allocator models call) is `nextClearFrom 0` -/
theorem BITSW_nextClearFrom_zero (l : Bits) : l.nextClearFrom 0 = l.nextClear :=
  Bits.nextClearFrom_zero l

/-- the call the allocators make: `NextClear(0)` is the list model's `nextClear` -/
theorem BITSW_nextClear0_refines (b : WBits) (hw : b.WF) : b.nextClear 0 = b.toBits.nextClear := by
  rw [BITSW_nextClear_refines b hw, BITSW_nextClearFrom_zero]

/-- explicit reading of the answer, in terms of the abstract list -/
theorem BITSW_nextClear_least (b : WBits) (hw : b.WF) (i : Nat) :
    (∀ k, b.nextClear i = some k →
        i ≤ k ∧ k < b.length ∧ b.toBits.test k = false ∧
        ∀ j, i ≤ j → j < k → b.toBits.test j = true) ∧
    (b.nextClear i = none → ∀ j, i ≤ j → j < b.length → b.toBits.test j = true) := by
  have hs := nextClear_spec b hw i
  simp only [test_toBits hw]
  constructor
  · intro k hk
    rw [hk] at hs
    exact hs
  · intro hn
    rw [hn] at hs
    exact hs

/-- a call that changes the set (`NextClear`, `Test` and `Len` do not) -/
inductive Op where
  | set (i : Nat) | clear (i : Nat)

def Op.apply (b : WBits) : Op → WBits
  | .set i => b.set i
  | .clear i => b.clear i

/-- any sequence of Set/Clear from `New(n)` keeps the invariant and stays in step with the list
model run on the same sequence. -/
theorem BITSW_run_refines (n : Nat) (ops : List Op) :
    (ops.foldl Op.apply (WBits.new n)).WF ∧
    (ops.foldl Op.apply (WBits.new n)).toBits =
      ops.foldl (fun l o => match o with | .set i => l.set i | .clear i => l.clear i) (Bits.new n) := by
  suffices h : ∀ (ops : List Op) (b : WBits) (l : Bits), b.WF → b.toBits = l →
      (ops.foldl Op.apply b).WF ∧ (ops.foldl Op.apply b).toBits =
        ops.foldl (fun l o => match o with | .set i => l.set i | .clear i => l.clear i) l from
    h ops _ _ (BITSW_wf_new n) (BITSW_new_refines n)
  intro ops
  induction ops with
  | nil =>
    intro b l hw he
    exact ⟨hw, he⟩
  | cons o ops ih =>
    intro b l hw he
    simp only [List.foldl_cons]
    cases o with
    | set i =>
      apply ih
      · exact BITSW_wf_set b hw i
      · show (b.set i).toBits = l.set i
        rw [BITSW_set_refines b hw, he]
    | clear i =>
      apply ih
      · exact BITSW_wf_clear b hw i
      · show (b.clear i).toBits = l.clear i
        rw [BITSW_clear_refines b hw, he]

/-- WF values exist for every length: New(n), and everything reachable from it. -/
example : (WBits.new 0).WF ∧ (WBits.new 65).WF ∧ ((WBits.new 65).set 200).WF :=
  ⟨BITSW_wf_new 0, BITSW_wf_new 65, BITSW_wf_set _ (BITSW_wf_new 65) 200⟩

/-- a full set whose length is not a multiple of 64: `(0,false)`, although the last word is not
all-ones (the index found in it is at the length, and is rejected). -/
example : (((List.range 65).foldl WBits.set (WBits.new 65)).nextClear 0) = none := by decide +kernel
/-- …and after an extension inside the last word the exposed positions are clear -/
example : ((((List.range 65).foldl WBits.set (WBits.new 65)).set 70).nextClear 0) = some 65 := by decide +kernel
/-- empty set: `(0, false)` -/
example : (WBits.new 0).nextClear 0 = none := by decide
/-- start index in the last partial word with everything from there on set, and start index
beyond the words: `(0, false)` -/
example : ((WBits.new 66).set 65).nextClear 65 = none ∧ (WBits.new 66).nextClear 128 = none := by decide
/-- Set beyond the length: length i+1, one more word when a boundary is crossed -/
example : ((WBits.new 64).set 64).length = 65 ∧ ((WBits.new 64).set 64).words.length = 2 := by decide

/-- A representation that violates the invariant (bit 1 written, length 1): here `Set(2)`
exposes the stray bit — the list model says position 1 is clear after the extension, the words
say it is set.  So `BITSW_set_refines` really needs `WF`. -/
example : let bad : WBits := ⟨1, [2#64]⟩
    ¬ bad.WF ∧ (bad.set 2).toBits ≠ bad.toBits.set 2 := by
  refine ⟨?_, by decide⟩
  intro h
  have := h.2 1 (by decide)
  revert this
  decide

/-- a broken `nextClear` that forgot the `index < length` test in the first word would answer 65
for the full 65-bit set (an index the allocator would hand out beyond its range). -/
example : let b := (List.range 65).foldl WBits.set (WBits.new 65)
    (64 + ctz (~~~ (b.word 1))) = 65 ∧ b.nextClear 64 = none := by decide +kernel

end WBits
end CoreDhcp
