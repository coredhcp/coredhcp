/-
GEN (IPv4 bitmap allocator) — the definitions regenerated from the Go source on every run
(Generated/Alloc4.lean, written by `harness gen -unit alloc4` from the go/ast of
plugins/allocators/bitmap/bitmap_ipv4.go: toIP, toOffset, Allocate, Free, NewIPv4Allocator) are
equal to the hand-written model (Model/Alloc4.lean over Model/Bits.lean) that the allocator
theorems (Proofs/Alloc4.lean, Props/C0x) are about.

The form of the statements (generated function = embedding of the model function, first fit as the
model's `choice`) is described in DESIGN.md §1.5b.  Here the generated side keeps, beyond the model:
the /32 mask of the allocated net.IPNet, the `Loc` of ErrDoubleFree, panics as an outcome of their
own; the `Gen3.of…` functions are the embeddings.
-/
import CoreDhcp.Generated.Alloc4
import CoreDhcp.Proofs.Alloc4
namespace CoreDhcp
open GenA4 (Out Err IPNet)

def Gen3.ofOffErr : Off4Err → Err
  | .invalid => .errInvalidIP
  | .notInRange => .errNotInRange

/-- `toOffset` returns `0` next to either error -/
def Gen3.ofOffset : Except Off4Err Nat → Nat × Option Err
  | .ok o => (o, none)
  | .error e => (0, some (Gen3.ofOffErr e))

/-- `Allocate`: the mask is always /32; next to ErrNoAddrAvail the IP is nil -/
def Gen3.ofA4Res : A4Res → Out (IPNet × Option Err)
  | .ok ip => .ret (⟨some ip, some (32, 32)⟩, none)
  | .noaddr => .ret (⟨none, some (32, 32)⟩, some .errNoAddrAvail)
  | .panic => .panic "BUG: offset out of bounds"

/-- the way back (forgets the mask and the message) -/
def Gen3.toA4Res : Out (IPNet × Option Err) → A4Res
  | .ret (n, none) => .ok (n.ip.getD 0#32)
  | .ret (_, some _) => .noaddr
  | .panic _ => .panic

/-- `Free(n)`: ErrDoubleFree carries `n` -/
def Gen3.ofF4Res (n : IPNet) : F4Res → Option Err
  | .ok => none
  | .notInRange => some .errNotInRange
  | .doubleFree => some (.errDoubleFree n)

def Gen3.ofNew : Except New4Err A4 → Option A4 × Option Err
  | .ok a => (some a, none)
  | .error .invalid => (none, some .errNewInvalid)
  | .error .empty => (none, some .errNewEmpty)

theorem Gen3.toA4Res_ofA4Res (r : A4Res) : Gen3.toA4Res (Gen3.ofA4Res r) = r := by
  cases r <;> rfl

/-- `toIP` is exactly the tail of the model's `allocate`: the panic condition and the address. -/
theorem GEN_a4_toIP_eq (a : A4) (off : BitVec 32) :
    GenA4.toIP a off =
      if off.toNat > (a.stop - a.start).toNat then .panic "BUG: offset out of bounds"
      else .ret (a.start + off) := rfl

/-- at `uint32(next)`: the condition is the model's `n % 2^32 > (stop - start).toNat`. -/
theorem GEN_a4_toIP_ofNat (a : A4) (n : Nat) :
    GenA4.toIP a (BitVec.ofNat 32 n) =
      if n % 2^32 > (a.stop - a.start).toNat then .panic "BUG: offset out of bounds"
      else .ret (a.start + BitVec.ofNat 32 n) := by
  rw [GEN_a4_toIP_eq, BitVec.toNat_ofNat]

theorem GEN_a4_toIP_panic_iff (a : A4) (n : Nat) :
    (∃ m, GenA4.toIP a (BitVec.ofNat 32 n) = .panic m) ↔ n % 2^32 > (a.stop - a.start).toNat := by
  rw [GEN_a4_toIP_ofNat]
  constructor
  · rintro ⟨m, hm⟩
    by_cases h : n % 2^32 > (a.stop - a.start).toNat
    · exact h
    · rw [if_neg h] at hm
      cases hm
  · intro h
    exact ⟨_, by rw [if_pos h]⟩

theorem GEN_a4_toOffset_eq (a : A4) (ip : Option (BitVec 32)) :
    GenA4.toOffset a ip = .ret (Gen3.ofOffset (a.toOffset ip)) := by
  cases ip with
  | none => rfl
  | some x =>
    -- the model applies the embedding after its range test
    unfold A4.toOffset
    rw [apply_ite Gen3.ofOffset, apply_ite Out.ret]
    rfl

theorem Gen3.hintOff (a : A4) (ip : Option (BitVec 32)) :
    (Gen3.ofOffset (a.toOffset ip)).1 = a.hintOff ip := by
  unfold A4.hintOff
  cases a.toOffset ip <;> rfl

theorem GEN_a4_new_eq (s e : Option (BitVec 32)) :
    GenA4.newIPv4Allocator s e = .ret (Gen3.ofNew (A4.new s e)) := by
  cases s with
  | none => rfl
  | some s =>
    cases e with
    | none => rfl
    | some e =>
      unfold A4.new
      simp only
      rw [apply_ite Gen3.ofNew, apply_ite Out.ret]
      rfl

theorem GEN_a4_free_eq (a : A4) (n : IPNet) :
    GenA4.free a n = ((a.free n.ip).1, .ret (Gen3.ofF4Res n (a.free n.ip).2)) := by
  unfold GenA4.free A4.free
  rw [GEN_a4_toOffset_eq]
  cases a.toOffset n.ip with
  | error e => rfl
  | ok o =>
    -- both sides test the same bit; the generated side reads the offset out of the pair first
    dsimp only [Gen3.ofOffset]
    cases a.bm.test o
    · rfl
    · rfl

/-- The generated `Allocate` is the model's `allocate` driven by first fit
(`a.firstFit = a.bm.nextClear`, what `NextClear(0)` returns); that choice is always admissible. -/
theorem GEN_a4_allocate_eq (a : A4) (hint : IPNet) :
    (a.allocate hint.ip a.firstFit).map (fun p => (p.1, Gen3.ofA4Res p.2))
      = some (GenA4.allocate a hint) := by
  rw [A4.allocate_eq]
  unfold GenA4.allocate A4.firstFit GenA4.nextClear0
  rw [GEN_a4_toOffset_eq]
  dsimp only
  rw [Gen3.hintOff]
  generalize a.hintOff hint.ip = ho
  -- the model picks the bit first and calls `toIP` once; the generated text calls it in either branch
  cases a.bm.test ho
  · simp only [Bool.not_false, if_true, GEN_a4_toIP_ofNat]
    by_cases hp : ho % 2^32 > (a.stop - a.start).toNat
    · rw [if_pos hp, if_pos hp]
      rfl
    · rw [if_neg hp, if_neg hp]
      rfl
  · cases hn : a.bm.nextClear with
    | none =>
      rw [Bits.nextClear_none _ hn]
      rfl
    | some c =>
      obtain ⟨h1, h2⟩ := Bits.nextClear_some _ _ hn
      simp only [Bool.not_true, Bool.false_eq_true, if_false, h1, h2, Bool.not_false, and_self,
        if_true, GEN_a4_toIP_ofNat]
      by_cases hp : c % 2^32 > (a.stop - a.start).toNat
      · rw [if_pos hp, if_pos hp]
        rfl
      · rw [if_neg hp, if_neg hp]
        rfl

/-- the same, read from the model's side: with the first-fit choice the model's answer is `some`,
namely the generated function's state and (up to the mask and the panic message) result. -/
theorem GEN_a4_allocate_eq' (a : A4) (hint : IPNet) :
    a.allocate hint.ip a.firstFit
      = some ((GenA4.allocate a hint).1, Gen3.toA4Res (GenA4.allocate a hint).2) := by
  obtain ⟨p, hm, hg⟩ := Option.map_eq_some_iff.1 (GEN_a4_allocate_eq a hint)
  rw [hm, ← hg, Gen3.toA4Res_ofA4Res]

end CoreDhcp
