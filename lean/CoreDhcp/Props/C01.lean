/-
C01 — No datagram, in any history, can crash or wedge the server.
The model marks every place where the Go code (or a library encoder it
calls with repo-supplied values) can panic as an explicit outcome; "never panics" is then a
theorem about those outcomes, proved from the invariants of the stateful plugins. Termination:
every model function is a total Lean definition (structural recursion over finite lists), which
Lean checked when accepting it. Locks: every handler's mutex is released by `defer` (fact F1), so
no outcome — not even a panic — leaves a lock held.
-/
import CoreDhcp.Props.C02
import CoreDhcp.Props.C05
import CoreDhcp.Props.C15
import CoreDhcp.Props.C13
namespace CoreDhcp

/-- `HandleMsg4` ends in exactly one of: nothing sent, one reply sent — never the nil
control-message dereference — whenever the listener is bound or the kernel reported the receiving
interface (fact F5), for every parse result and every chain of handlers. "At most one reply" is
by construction: `Out4` holds at most one. -/
theorem C01_dispatch4 (bound : Nat) (oob : Option Nat) (hs : List Handler4) (input : Option Req4)
    (henv : bound ≠ 0 ∨ ∃ i, oob = some i ∧ i ≠ 0) :
    dispatch4 bound oob hs input = .drop ∨ ∃ r p port i l2, dispatch4 bound oob hs input = .send r p port i l2 := by
  have h := C15_has_interface bound oob hs input henv
  cases hd : dispatch4 bound oob hs input with
  | drop => exact Or.inl rfl
  | send r p port i l2 => exact Or.inr ⟨r, p, port, i, l2, rfl⟩
  | panicNoIf => exact absurd hd h

/-- `HandleMsg6`: nothing sent or one reply (the model has no other outcome), for every input. -/
theorem C01_dispatch6 (bound : Nat) (oob : Option Nat) (src : Addr) (hs : List Handler6) (input : Option Pkt6) :
    dispatch6 bound oob src hs input = .drop ∨ ∃ ls r i, dispatch6 bound oob src hs input = .send ls r i := by
  cases hd : dispatch6 bound oob src hs input with
  | drop => exact Or.inl rfl
  | send ls r i => exact Or.inr ⟨ls, r, i, rfl⟩

/-- The range plugin never reaches `toIP`'s "BUG: offset out of bounds" panic, in any history of
requests and restarts. -/
theorem C01_range_never_panics (start stop : BitVec 32) (lease : Int)
    (loadKey : Mac → Option Mac) (order : List (Mac × Rec) → List (Mac × Rec))
    (hkey : ∀ m, loadKey m = some m) (hperm : ∀ l, (order l).Perm l)
    (s0 : RState) (hs0 : RState.setup start stop lease [] loadKey order = .ok s0)
    (ops : List ROp) (cs : List (Option Nat)) (evs : List REv) (z : RState)
    (hrun : RState.run loadKey order s0 ops cs = some (evs, z)) :
    ∀ mac now st, REv.req mac now .panic st ∉ evs :=
  fun _ _ _ => not_mem_of_verdicts (RMon.step ⟨start, stop, lease⟩) (RMon.run ⟨start, stop, lease⟩) (fun _ _ _ => rfl)
    RVerdict.all _ (fun _ => rfl) [] evs
    (RState.run_verdicts start stop lease loadKey order hkey hperm s0 hs0 ops cs evs z hrun)

/-- The IPv6 allocator never reaches its "BUG: could not get prefix from allocation" branch nor a
failing `toPrefix` on the hint path, in any history. -/
theorem C01_alloc6_never_bug (p : Pool6) (hp : p.WF) (a : A6) (hnew : A6.new p = .ok a)
    (ops : List Op6) (cs : List (Option Nat)) (evs : List Ev6) (z : A6)
    (hdom : ops.all (Op6.inDomain p) = true) (hrun : A6.run a ops cs = some (evs, z)) :
    ∀ h e, e ≠ AErr.noaddr → Ev6.alloc h (.error e) ∉ evs :=
  fun _ e hne => not_mem_of_verdicts (Mon6.step p) (Mon6.run p) (fun _ _ _ => rfl) Verdict.all _
    (fun _ => by
      cases e with
      | noaddr => exact absurd rfl hne
      | bug => rfl
      | hintPrefix => rfl)
    [] evs (A6.run_verdicts p hp a hnew ops cs evs z hdom hrun)

/-- The IPv4 allocator never reaches `toIP`'s panic, in any history, for any range. -/
theorem C01_alloc4_never_panics (s e : BitVec 32) (a : A4) (hnew : A4.new (some s) (some e) = .ok a)
    (ops : List Op4) (cs : List (Option Nat)) (evs : List Ev4) (z : A4)
    (hrun : A4.run a ops cs = some (evs, z)) : ∀ h, Ev4.alloc h .panic ∉ evs :=
  fun _ => not_mem_of_verdicts (Mon4.step s e) (Mon4.run s e) (fun _ _ _ => rfl) Verdict.all _ (fun _ => rfl)
    [] evs (A4.run_verdicts s e a hnew ops cs evs z hrun)

/-- The chain itself always terminates after at most `hs.length` handler invocations. -/
theorem C01_chain_bounded {Req Resp : Type} (hs : List (Req → Option Resp → Option Resp × Bool)) (req : Req) (r0 : Option Resp) :
    (runChain hs req 0 r0).2.length ≤ hs.length := by
  rw [(C13_order hs req r0).1, List.length_map, List.length_range]
  exact (C13_stop hs req r0).1

end CoreDhcp
