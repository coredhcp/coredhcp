/-
The program as one function (Model/Server.lean): end-to-end theorems, composed from the theorems about the parts —
MAINREG_* (Props/GenMainReg.lean), START_* (Props/GenStart.lean), C13_* (Props/C13.lean), SYS_* (Props/System.lean).

Everything here is about `Server.runGen`: `Server.run` at the log levels, the plugin list and the initial registry
GENERATED from cmds/coredhcp/main.go (unit `mainreg`), so that its trace is `GenMainReg.main` — the `main` the
source has now (`SERVER_trace_is_main`).
-/
import CoreDhcp.Model.Server
import CoreDhcp.Props.GenMainReg
import CoreDhcp.Props.GenStart
import CoreDhcp.Props.C13
import CoreDhcp.Props.System
namespace CoreDhcp
open MainReg Server

def Server.runGen {H4 H6 : Type} (f : Flags) (e : Env H4 H6) : Run H4 H6 :=
  Server.run GenMainReg.logLevelNames GenMainReg.desired GenMainReg.registry0 f e

/-- the registry `main` has built when it calls `server.Start` -/
def Server.theReg : Reg := ((regRun GenMainReg.registry0 GenMainReg.desired).2).getD []

theorem Server.theReg_ok : registerAll GenMainReg.registry0 GenMainReg.desired = .ok Server.theReg := by
  rw [Server.theReg, MainReg.regRun_desired]
  exact MainReg.registerAll_desired

/-- the fields of `runGen`, by unfolding: the trace is the generated `main`; whether `server.Start` was called, with
which configuration and which chains, is read off that trace (`started`) -/
theorem Server.run_spec {H4 H6 : Type} (f : Flags) (e : Env H4 H6) :
    (runGen f e).trace = GenMainReg.main f (world e theReg) ∧
    (match (started (GenMainReg.main f (world e theReg))).bind (cfgOf e) with
     | none => (runGen f e).start = none ∧ (runGen f e).chain4 = [] ∧ (runGen f e).chain6 = []
     | some cfg => (runGen f e).start = some (Server.start e theReg cfg) ∧
        (match chains e theReg cfg with
         | .ok hs => (runGen f e).chain4 = hs.1 ∧ (runGen f e).chain6 = hs.2
         | .error _ => (runGen f e).chain4 = [] ∧ (runGen f e).chain6 = [])) := by
  rw [GEN_mainreg_main_eq]
  unfold runGen Server.run theReg
  dsimp only
  generalize (started (MainReg.main GenMainReg.logLevelNames GenMainReg.desired GenMainReg.registry0 f
      (world e ((regRun GenMainReg.registry0 GenMainReg.desired).2.getD [])))).bind (cfgOf e) = x
  cases x with
  | none => exact ⟨rfl, rfl, rfl, rfl⟩
  | some cfg =>
    dsimp only
    generalize chains e ((regRun GenMainReg.registry0 GenMainReg.desired).2.getD []) cfg = y
    cases y <;> exact ⟨rfl, rfl, rfl, rfl⟩

/-- The trace of the program is the `main` generated from the source, run against `config.Load` = Model/Config.lean
on the file the path names, and `server.Start` = Model/Start.lean with the chains Model/Plugins.lean loads from the
registry main has built. -/
theorem SERVER_trace_is_main {H4 H6 : Type} (f : Flags) (e : Env H4 H6) :
    (runGen f e).trace = GenMainReg.main f (world e theReg) := (Server.run_spec f e).1

theorem Server.started_append (A B : Trace) (h : ∀ s ∈ A, ∀ c, s ≠ .start c) : started (A ++ B) = started B := by
  induction A with
  | nil => rfl
  | cons s A ih =>
    rw [List.cons_append, started.eq_3 s _ (h s (List.mem_cons_self ..))]
    exact ih fun s hs => h s (List.mem_cons_of_mem _ hs)

/-- the fifteen registrations cannot fail: once the flags are accepted, whether `server.Start` is called is up to the load -/
theorem Server.started_main (f : Flags) (w : MainReg.World) :
    started (GenMainReg.main f w) =
      if f.plugins = false ∧ GenMainReg.logLevelNames.contains f.loglevel = true then w.load f.conf else none := by
  split
  · next hfl =>
    -- neither the logger set-up nor the load nor a registration is a start
    rw [MAINREG_run f w hfl.1 hfl.2, Server.started_append _ _ ?noStart]
    case noStart =>
      intro s hs c e
      rcases List.mem_append.mp hs with hs | hs
      · exact (head_no_effect f s hs).2.1 c e
      · cases (List.mem_singleton.mp hs).symm.trans e
    cases w.load f.conf with
    | none => rfl
    | some c =>
      dsimp only
      rw [List.append_assoc]
      refine Server.started_append _ _ fun s hs c e => ?_
      obtain ⟨q, _, rfl⟩ := List.mem_map.mp hs
      cases e
  · next hfl =>
    -- a start in the trace tells that the flags were accepted
    have hno : ∀ s ∈ GenMainReg.main f w, ∀ c, s ≠ .start c := by
      intro s hs c e
      subst e
      rw [GEN_mainreg_main_eq] at hs
      exact hfl (MainReg.step_mem _ _ _ f w hs).2.2
    have := Server.started_append _ [] hno
    rwa [List.append_nil] at this

theorem Server.load_eq_some {H4 H6 : Type} (e : Env H4 H6) (p : String) (c : Cfg) :
    load e p = some c ↔ e.file p = some c ∧ ∃ cfg, cfgOf e c = some cfg := by
  unfold load
  cases e.file p with
  | none => exact ⟨nofun, fun h => nomatch h.1⟩
  | some c' =>
    dsimp only
    cases hc : cfgOf e c' with
    | none =>
      refine ⟨nofun, fun ⟨h, cfg, hcfg⟩ => ?_⟩
      cases h
      rw [hc] at hcfg
      cases hcfg
    | some cfg =>
      constructor
      · intro h
        cases h
        exact ⟨rfl, cfg, hc⟩
      · intro h
        rw [h.1]
        rfl

theorem Server.world_start {H4 H6 : Type} (e : Env H4 H6) (reg : Reg) (c : Cfg) (cfg : Loaded) (h : cfgOf e c = some cfg) :
    (world e reg).start c = startOk (Server.start e reg cfg) := by
  show (match cfgOf e c with | none => false | some cfg => startOk (Server.start e reg cfg)) = _
  rw [h]

/-- one listener per address of a section: its protocol, and the socket opened for (protocol, zone of the address,
position of the address in the section counted from `k`) -/
def Server.addrConns (p : Proto) : Nat → List UDPAddr → List (Proto × Option (Proto × String × Nat))
  | _, [] => []
  | k, a :: rest => (p, some (p, a.zone, k)) :: Server.addrConns p (k + 1) rest

theorem Server.addrConns_laddrs (p : Proto) (k : Nat) (as : List UDPAddr) :
    ((laddrs k as).map (fun a => (p, a))).map (fun pa => (pa.1, some (pa.1, pa.2.zone, pa.2.id))) = Server.addrConns p k as := by
  induction as generalizing k with
  | nil => rfl
  | cons a rest ih =>
    simp only [laddrs, List.map_cons, Server.addrConns, ih]

theorem Server.addrConns_proto (p : Proto) (k : Nat) (as : List UDPAddr) : ∀ x ∈ Server.addrConns p k as, x.1 = p := by
  induction as generalizing k with
  | nil => intro x hx; cases hx
  | cons a rest ih =>
    intro x hx
    simp only [Server.addrConns, List.mem_cons] at hx
    rcases hx with rfl | hx
    · rfl
    · exact ih (k + 1) x hx

/-- one listener per address of the section -/
theorem Server.addrConns_length (p : Proto) (k : Nat) (as : List UDPAddr) : (Server.addrConns p k as).length = as.length := by
  induction as generalizing k with
  | nil => rfl
  | cons a rest ih => simp only [Server.addrConns, List.length_cons, ih]

/-- the listeners the configuration asks for: the addresses of the DHCPv6 section, then those of the DHCPv4 section;
an absent section has none -/
def Server.expected (cfg : Loaded) : List (Proto × Option (Proto × String × Nat)) :=
  (match cfg.1 with | some s => Server.addrConns .v6 0 s.addrs | none => []) ++
  (match cfg.2 with | some s => Server.addrConns .v4 0 s.addrs | none => [])

theorem Server.mem_expected {cfg : Loaded} {x : Proto × Option (Proto × String × Nat)} (h : x ∈ Server.expected cfg) :
    (x.1 = .v6 ∧ cfg.1 ≠ none) ∨ (x.1 = .v4 ∧ cfg.2 ≠ none) := by
  obtain ⟨c6, c4⟩ := cfg
  rcases List.mem_append.mp h with h | h
  · cases c6 with
    | none => cases h
    | some s => exact .inl ⟨Server.addrConns_proto _ _ _ _ h, nofun⟩
  · cases c4 with
    | none => cases h
    | some s => exact .inr ⟨Server.addrConns_proto _ _ _ _ h, nofun⟩

def Server.configured {H : Type} (has : PluginDecl → Bool) (setup : PluginDecl → Setup H)
    (ps : List (String × List String)) : List (Except Unit (Option H)) :=
  ps.filterMap (fun q => match GenMainReg.desired.find? (fun p => p.name = q.1) with
    | some d => if has d = true then some (setup d q.2) else none
    | none => none)

/-- What is true of a run whose `server.Start` returned without error (`Server.ok_run`).  `c`: the file the --conf path
names; `cfg`: what `config.Load` (Model/Config.lean) made of it.  The SERVER_* theorems about a started server read
these fields. -/
structure Server.Ok {H4 H6 : Type} (f : Flags) (e : Env H4 H6) (c : Cfg) (cfg : Loaded) : Prop where
  file : e.file f.conf = some c
  loaded : cfgOf e c = some cfg
  /-- the flags were accepted, the file loaded, the fifteen registrations and the start succeeded: `main` waits -/
  trace : (runGen f e).trace = [.parseFlags, .getLogger "main"] ++ MainReg.logging f ++ [.load f.conf] ++
      (GenMainReg.desired.map (fun p => Step.registered p.name) ++ [.start c] ++ [.wait, .ret])
  /-- what `LoadPlugins` returned: per section, the chain loaded from its plugin list with main's registry (`chainOf` of
  a section that is absent: `.ok []`) -/
  chain4 : Gen6.chainOf (Reg.view4 e.setup4 theReg) (cfg.2.map (·.plugins)) = .ok (runGen f e).chain4
  chain6 : Gen6.chainOf (Reg.view6 e.setup6 theReg) (cfg.1.map (·.plugins)) = .ok (runGen f e).chain6
  /-- what START_every_section_listens and START_whole_chain say of the listeners served -/
  conns : (runGen f e).listeners.map (fun l => (l.proto, l.conn)) = Server.expected cfg
  whole : ∀ l ∈ (runGen f e).listeners, l.chain = some (Chain.of l.proto)

theorem Server.ok_run {H4 H6 : Type} (f : Flags) (e : Env H4 H6) (st : St)
    (hs : (runGen f e).start = some (.ok st)) : ∃ c cfg, Server.Ok f e c cfg := by
  obtain ⟨ht, hm⟩ := Server.run_spec f e
  rw [Server.started_main] at hm
  by_cases hfl : f.plugins = false ∧ GenMainReg.logLevelNames.contains f.loglevel = true
  · rw [if_pos hfl] at hm
    cases hw : (world e theReg).load f.conf with
    | none =>
      rw [hw] at hm
      rw [hm.1] at hs
      cases hs
    | some c =>
      obtain ⟨hfile, cfg, hcfg⟩ := (Server.load_eq_some e f.conf c).mp hw
      rw [hw] at hm
      simp only [Option.bind_some, hcfg] at hm
      obtain ⟨hstart, hch⟩ := hm
      have hst : Server.start e theReg cfg = .ok st := Option.some.inj (hstart.symm.trans hs)
      have hls : (runGen f e).listeners = st.serving := by rw [Run.listeners, hs]
      -- `LoadPlugins` succeeded: otherwise `Start` returns its error
      cases hc : chains e theReg cfg with
      | error err =>
        rw [Server.start, hc, isOk, START_load_error_opens_nothing] at hst
        cases hst
      | ok hh =>
        have hst' : Start.start (startCfg cfg) true e.net = .ok st := by
          rw [Server.start, hc] at hst
          exact hst
        rw [hc] at hch
        obtain ⟨h4, h6⟩ := loadPlugins_ok _ _ _ _ hh.1 hh.2 hc
        rw [← hch.1] at h4
        rw [← hch.2] at h6
        refine ⟨c, cfg, hfile, hcfg, ?_, h4, h6, ?_, ?_⟩
        · rw [ht, MAINREG_run f _ hfl.1 hfl.2, hw]
          dsimp only
          rw [Server.world_start e theReg c cfg hcfg, hst]
          rfl
        · rw [hls, (START_every_section_listens _ _ _ hst').1]
          obtain ⟨c6, c4⟩ := cfg
          unfold Start.wanted startCfg Server.expected
          rw [List.map_append]
          cases c6 <;> cases c4 <;>
            simp only [Option.map_none, Option.map_some, Option.getD_none, Option.getD_some, List.map_nil,
              Server.addrConns_laddrs]
        · rw [hls]
          exact START_whole_chain _ _ _ hst'
  · rw [if_neg hfl] at hm
    rw [hm.1] at hs
    cases hs

section
variable {H4 H6 : Type} {f : Flags} {e : Env H4 H6} {c : Cfg} {cfg : Loaded}

theorem Server.Ok.mem_trace (ok : Server.Ok f e c cfg) : Step.start c ∈ (runGen f e).trace := by
  rw [ok.trace]
  exact List.mem_append_right _ (List.mem_append_left _ (List.mem_append_right _ (List.mem_singleton.mpr rfl)))

/-- a listener of a started server belongs to a section that is present -/
theorem Server.Ok.present (ok : Server.Ok f e c cfg) {l : Listener} (hl : l ∈ (runGen f e).listeners) :
    (l.proto = .v6 ∧ cfg.1 ≠ none) ∨ (l.proto = .v4 ∧ cfg.2 ≠ none) :=
  Server.mem_expected (ok.conns ▸ List.mem_map.mpr ⟨l, hl, rfl⟩ : (l.proto, l.conn) ∈ Server.expected cfg)

/-- `l.handlers` of a listener of a started server: the whole chain of its own protocol -/
theorem Server.Ok.handlers (ok : Server.Ok f e c cfg) {l : Listener} (hl : l ∈ (runGen f e).listeners) :
    (l.proto = .v4 → (runGen f e).handlers4 l = (runGen f e).chain4 ∧ (runGen f e).handlers6 l = []) ∧
    (l.proto = .v6 → (runGen f e).handlers6 l = (runGen f e).chain6 ∧ (runGen f e).handlers4 l = []) := by
  rw [Run.handlers4, Run.handlers6, ok.whole l hl]
  cases l.proto
  · exact ⟨nofun, fun _ => ⟨rfl, rfl⟩⟩
  · exact ⟨fun _ => ⟨rfl, rfl⟩, nofun⟩

end

theorem Server.listener4 {H4 H6 : Type} (f : Flags) (e : Env H4 H6) (st : St)
    (hs : (runGen f e).start = some (.ok st)) (l : Listener) (hl : l ∈ (runGen f e).listeners) (hp : l.proto = .v4) :
    ∃ c cfg s, e.file f.conf = some c ∧ cfgOf e c = some cfg ∧ cfg.2 = some s ∧
      loadChain (Reg.view4 e.setup4 theReg) s.plugins = .ok (runGen f e).chain4 ∧
      (runGen f e).handlers4 l = (runGen f e).chain4 := by
  obtain ⟨c, ⟨c6, c4⟩, ok⟩ := Server.ok_run f e st hs
  rcases ok.present hl with ⟨h6, _⟩ | ⟨_, hne⟩
  · cases hp.symm.trans h6
  cases c4 with
  | none => exact absurd rfl hne
  | some s => exact ⟨c, _, s, ok.file, ok.loaded, rfl, ok.chain4, ((ok.handlers hl).1 hp).1⟩

theorem Server.listener6 {H4 H6 : Type} (f : Flags) (e : Env H4 H6) (st : St)
    (hs : (runGen f e).start = some (.ok st)) (l : Listener) (hl : l ∈ (runGen f e).listeners) (hp : l.proto = .v6) :
    ∃ c cfg s, e.file f.conf = some c ∧ cfgOf e c = some cfg ∧ cfg.1 = some s ∧
      loadChain (Reg.view6 e.setup6 theReg) s.plugins = .ok (runGen f e).chain6 ∧
      (runGen f e).handlers6 l = (runGen f e).chain6 := by
  obtain ⟨c, ⟨c6, c4⟩, ok⟩ := Server.ok_run f e st hs
  rcases ok.present hl with ⟨_, hne⟩ | ⟨h4, _⟩
  · cases c6 with
    | none => exact absurd rfl hne
    | some s => exact ⟨c, _, s, ok.file, ok.loaded, rfl, ok.chain6, ((ok.handlers hl).2 hp).1⟩
  · cases hp.symm.trans h4

/-- **The listeners get the configured chain.**  A run, for any flags and any environment, whose `server.Start` returns
without error (`st`: the state it built): `c` is the file the --conf path names, `cfg` what `config.Load`
(Model/Config.lean, C18) makes of it; the registry is the one `main` built from `desiredPlugins`; each chain of the run
is what `loadChain` (C13) yields for the plugin list of its section, `[]` without one — every listed name is one of
`desiredPlugins`, and the handlers are, in file order, what the `SetupN` of the listed declarations returned, names
whose declaration has none skipped; every listener has the WHOLE chain of its own protocol; and the listeners are
one per address, server6 section first, each on the socket opened for that address. -/
theorem SERVER_listeners_get_configured_chain {H4 H6 : Type} (f : Flags) (e : Env H4 H6) (st : St)
    (hs : (runGen f e).start = some (.ok st)) :
    ∃ c cfg,
      (e.file f.conf = some c ∧ cfgOf e c = some cfg ∧ Step.start c ∈ (runGen f e).trace) ∧
      registerAll GenMainReg.registry0 GenMainReg.desired = .ok theReg ∧
      (match cfg.2 with
       | some s => loadChain (Reg.view4 e.setup4 theReg) s.plugins = .ok (runGen f e).chain4 ∧
           (∀ q ∈ s.plugins, q.1 ∈ GenMainReg.desired.map (fun p => p.name)) ∧
           Server.configured (·.has4) e.setup4 s.plugins = (runGen f e).chain4.map (fun x => .ok (some x))
       | none => (runGen f e).chain4 = []) ∧
      (match cfg.1 with
       | some s => loadChain (Reg.view6 e.setup6 theReg) s.plugins = .ok (runGen f e).chain6 ∧
           (∀ q ∈ s.plugins, q.1 ∈ GenMainReg.desired.map (fun p => p.name)) ∧
           Server.configured (·.has6) e.setup6 s.plugins = (runGen f e).chain6.map (fun x => .ok (some x))
       | none => (runGen f e).chain6 = []) ∧
      (∀ l ∈ (runGen f e).listeners,
        (l.proto = .v4 → (runGen f e).handlers4 l = (runGen f e).chain4 ∧ (runGen f e).handlers6 l = []) ∧
        (l.proto = .v6 → (runGen f e).handlers6 l = (runGen f e).chain6 ∧ (runGen f e).handlers4 l = [])) ∧
      (runGen f e).listeners.map (fun l => (l.proto, l.conn)) = Server.expected cfg ∧
      (cfg.2 = none → ∀ l ∈ (runGen f e).listeners, l.proto ≠ .v4) ∧
      (cfg.1 = none → ∀ l ∈ (runGen f e).listeners, l.proto ≠ .v6) := by
  obtain ⟨c, ⟨c6, c4⟩, ok⟩ := Server.ok_run f e st hs
  have hreg := Server.theReg_ok
  refine ⟨c, (c6, c4), ⟨ok.file, ok.loaded, ok.mem_trace⟩, hreg, ?_, ?_, fun l hl => ok.handlers hl, ok.conns, ?_, ?_⟩
  · cases c4 with
    | none => exact (Except.ok.inj ok.chain4).symm
    | some s => exact ⟨ok.chain4, MAINREG_load_exact4 e.setup4 theReg hreg s.plugins _ ok.chain4⟩
  · cases c6 with
    | none => exact (Except.ok.inj ok.chain6).symm
    | some s => exact ⟨ok.chain6, MAINREG_load_exact6 e.setup6 theReg hreg s.plugins _ ok.chain6⟩
  · intro hn l hl hp
    rcases ok.present hl with ⟨h, _⟩ | ⟨_, h⟩
    · cases hp.symm.trans h
    · exact h hn
  · intro hn l hl hp
    rcases ok.present hl with ⟨_, h⟩ | ⟨h, _⟩
    · exact h hn
    · cases hp.symm.trans h

/-- "`server.Start` returned without error" seen in the trace: the run is then — whatever the flags were — the
logger set-up, the load of the --conf file, the fifteen registrations, the start of the server with file `c`, and
`srv.Wait()`. -/
theorem SERVER_started_run_waits {H4 H6 : Type} (f : Flags) (e : Env H4 H6) (st : St)
    (hs : (runGen f e).start = some (.ok st)) :
    ∃ c, e.file f.conf = some c ∧
      (runGen f e).trace = [.parseFlags, .getLogger "main"] ++ MainReg.logging f ++ [.load f.conf] ++
        (GenMainReg.desired.map (fun p => Step.registered p.name) ++ [.start c] ++ [.wait, .ret]) := by
  obtain ⟨c, cfg, ok⟩ := Server.ok_run f e st hs
  exact ⟨c, ok.file, ok.trace⟩

/-- file 7, named /etc/coredhcp.yml: a server4 section listing `server_id`, `prefix` (no DHCPv4 set-up), `dns`, no
`listen` (so: the default listener 0.0.0.0:67); no server6 section -/
def Server.exFile : RawFile :=
  ⟨none, some { plugins := some [.one "server_id" ["10.0.0.1"], .one "prefix" ["2001:db8::/48", "64"], .one "dns" ["8.8.8.8"]],
                iface := none, listen := none, oracles := [] }⟩

/-- an environment with that file and no other, set-up functions that always give a handler (the plugin's name and
its arguments), and socket calls that succeed -/
def Server.exEnv : Env (String × List String) (String × List String) :=
  { file := fun p => if p = "/etc/coredhcp.yml" then some 7 else if p = "/etc/typo.yml" then some 8 else none,
    content := fun c => if c = 7 then Server.exFile else
      ⟨none, some { plugins := some [.one "server_id" ["10.0.0.1"], .one "leasetime" ["1h"]], iface := none, listen := none, oracles := [] }⟩,
    ifs := [], setup4 := fun p args => .ok (some (p.name, args)), setup6 := fun p args => .ok (some (p.name, args)),
    net := fun _ => ⟨true, true, true, true⟩, ifIndex := fun _ => 2 }

def Server.exFlags (conf : String) : Flags := ⟨"", false, "info", conf, false⟩

theorem Server.ok_of_startOk {H4 H6 : Type} (r : Run H4 H6) (h : r.start.map startOk = some true) :
    ∃ st, r.start = some (.ok st) := by
  cases hs : r.start with
  | none => rw [hs] at h; cases h
  | some o =>
    cases o with
    | ok st => exact ⟨st, rfl⟩
    | loadErr => rw [hs] at h; cases h
    | listenErr st f => rw [hs] at h; cases h

/-- for the examples: the run started, together with facts that evaluate — ONE evaluation of the run by the kernel
decides both (several `decide`s would each run the program again) -/
theorem Server.ok_and {H4 H6 : Type} {P : Prop} (r : Run H4 H6) (h : r.start.map startOk = some true ∧ P) :
    (∃ st, r.start = some (.ok st)) ∧ P :=
  ⟨Server.ok_of_startOk r h.1, h.2⟩

-- the hypothesis of `SERVER_listeners_get_configured_chain` is satisfiable, and its conclusion on this run: one
-- DHCPv4 listener, on the socket for address 0 of the section, whose handlers are server_id and dns in file order
-- (`prefix` skipped), no DHCPv6 chain
example : (∃ st, (runGen (Server.exFlags "/etc/coredhcp.yml") Server.exEnv).start = some (.ok st)) ∧
    (runGen (Server.exFlags "/etc/coredhcp.yml") Server.exEnv).chain4 = [("server_id", ["10.0.0.1"]), ("dns", ["8.8.8.8"])] ∧
    (runGen (Server.exFlags "/etc/coredhcp.yml") Server.exEnv).chain6 = [] ∧
    (runGen (Server.exFlags "/etc/coredhcp.yml") Server.exEnv).listeners.map (fun l => (l.proto, l.conn)) = [(.v4, some (.v4, "", 0))] ∧
    (runGen (Server.exFlags "/etc/coredhcp.yml") Server.exEnv).listeners.map
      (fun l => (runGen (Server.exFlags "/etc/coredhcp.yml") Server.exEnv).handlers4 l) = [[("server_id", ["10.0.0.1"]), ("dns", ["8.8.8.8"])]] := by
  exact Server.ok_and _ (by decide +kernel)

/-- the configuration file cannot be read or `config.Load` rejects it -/
theorem Server.load_fails {H4 H6 : Type} (f : Flags) (e : Env H4 H6) (h : load e f.conf = none) :
    (runGen f e).start = none ∧
    (∀ s ∈ (runGen f e).trace, (∀ n, s ≠ .registered n) ∧ (∀ c, s ≠ .start c)) ∧
    (f.plugins = false → GenMainReg.logLevelNames.contains f.loglevel = true →
      (runGen f e).trace = [.parseFlags, .getLogger "main"] ++ MainReg.logging f ++ [.load f.conf] ++ [.fatal .load]) := by
  obtain ⟨ht, hm⟩ := Server.run_spec f e
  have hw : (world e theReg).load f.conf = none := h
  rw [Server.started_main, hw, ite_self] at hm
  refine ⟨hm.1, ?_, fun hp hl => ?_⟩
  · rw [ht]
    exact (MAINREG_config_before_sockets_gen f (world e theReg)).2.1 hw
  · rw [ht, MAINREG_run f _ hp hl, hw]

/-- the file loads but `plugins.LoadPlugins` fails on it: `server.Start`, if the run gets that far, returns that error
before any listenN call -/
theorem Server.plugins_fail {H4 H6 : Type} (f : Flags) (e : Env H4 H6) (c : Cfg) (cfg : Loaded) (err : LoadErr)
    (hfile : e.file f.conf = some c) (hcfg : cfgOf e c = some cfg) (herr : chains e theReg cfg = .error err) :
    ((runGen f e).start = none ∨ (runGen f e).start = some .loadErr) ∧
    (f.plugins = false → GenMainReg.logLevelNames.contains f.loglevel = true →
      (runGen f e).start = some .loadErr ∧
      (runGen f e).trace = [.parseFlags, .getLogger "main"] ++ MainReg.logging f ++ [.load f.conf] ++
        (GenMainReg.desired.map (fun p => Step.registered p.name) ++ [.start c] ++ [.fatal .start])) := by
  obtain ⟨ht, hm⟩ := Server.run_spec f e
  have hstart : Server.start e theReg cfg = .loadErr := by
    unfold Server.start
    rw [herr]
    exact START_load_error_opens_nothing _ _
  have hw : (world e theReg).load f.conf = some c := (Server.load_eq_some e f.conf c).mpr ⟨hfile, cfg, hcfg⟩
  rw [Server.started_main, hw] at hm
  by_cases hfl : f.plugins = false ∧ GenMainReg.logLevelNames.contains f.loglevel = true
  · rw [if_pos hfl] at hm
    simp only [Option.bind_some, hcfg] at hm
    have hs : (runGen f e).start = some .loadErr := by
      rw [hm.1, hstart]
    refine ⟨Or.inr hs, fun hp hl => ⟨hs, ?_⟩⟩
    rw [ht, MAINREG_run f _ hp hl, hw]
    dsimp only
    rw [Server.world_start e theReg c cfg hcfg, hstart]
    rfl
  · rw [if_neg hfl] at hm
    exact ⟨Or.inl hm.1, fun hp hl => absurd ⟨hp, hl⟩ hfl⟩

/-- when `LoadPlugins` fails, from the configuration alone -/
theorem Server.chains_fail {H4 H6 : Type} (e : Env H4 H6) (cfg : Loaded)
    (h : (∃ s, cfg.2 = some s ∧ ((∃ q ∈ s.plugins, q.1 ∉ GenMainReg.desired.map (fun p => p.name)) ∨
            (∃ q ∈ supported (Reg.view4 e.setup4 theReg) s.plugins, q.2 = .error () ∨ q.2 = .ok none))) ∨
         (∃ s, cfg.1 = some s ∧ ((∃ q ∈ s.plugins, q.1 ∉ GenMainReg.desired.map (fun p => p.name)) ∨
            (∃ q ∈ supported (Reg.view6 e.setup6 theReg) s.plugins, q.2 = .error () ∨ q.2 = .ok none)))) :
    ∃ err, chains e theReg cfg = .error err := by
  have hreg := Server.theReg_ok
  unfold chains
  apply loadPlugins_error
  rcases h with ⟨s, hs, h⟩ | ⟨s, hs, h⟩
  · left
    rw [hs]
    rcases h with ⟨q, hq, hn⟩ | h
    · exact (MAINREG_unknown_name_rejected e.setup4 theReg hreg s.plugins q hq hn).1
    · exact C13_load_aborts _ s.plugins (Or.inr h)
  · right
    rw [hs]
    rcases h with ⟨q, hq, hn⟩ | h
    · exact (MAINREG_unknown_name_rejected e.setup6 theReg hreg s.plugins q hq hn).2
    · exact C13_load_aborts _ s.plugins (Or.inr h)

theorem Server.no_listen {H4 H6 : Type} (r : Run H4 H6) (h : r.start = none ∨ r.start = some .loadErr) :
    r.listenCalls = 0 ∧ r.listeners = [] := by
  rcases h with h | h
  · rw [Run.listenCalls, Run.listeners, h]; exact ⟨rfl, rfl⟩
  · rw [Run.listenCalls, Run.listeners, h]; exact ⟨rfl, rfl⟩

/-- **A bad configuration opens nothing.**  The --conf file cannot be read, or `config.Load` rejects it, or a section
lists a name that is not one of `desiredPlugins`, or a listed plugin's set-up function returns an error or a nil
handler: then no listenN call is made in the whole run (`server.Start` is not called, or returns the error of
`LoadPlugins` before it touches the network), and a run that gets past the flags ENDS with `log.Fatal`: of the load
(nothing registered) in the first two cases, of the start (after the fifteen registrations) in the others. -/
theorem SERVER_bad_config_opens_nothing {H4 H6 : Type} (f : Flags) (e : Env H4 H6)
    (hbad : load e f.conf = none ∨
      ∃ c cfg, e.file f.conf = some c ∧ cfgOf e c = some cfg ∧
        ((∃ s, cfg.2 = some s ∧ ((∃ q ∈ s.plugins, q.1 ∉ GenMainReg.desired.map (fun p => p.name)) ∨
            (∃ q ∈ supported (Reg.view4 e.setup4 theReg) s.plugins, q.2 = .error () ∨ q.2 = .ok none))) ∨
         (∃ s, cfg.1 = some s ∧ ((∃ q ∈ s.plugins, q.1 ∉ GenMainReg.desired.map (fun p => p.name)) ∨
            (∃ q ∈ supported (Reg.view6 e.setup6 theReg) s.plugins, q.2 = .error () ∨ q.2 = .ok none))))) :
    (runGen f e).listenCalls = 0 ∧ (runGen f e).listeners = [] ∧
    ((runGen f e).start = none ∨ (runGen f e).start = some .loadErr) ∧
    (f.plugins = false → GenMainReg.logLevelNames.contains f.loglevel = true →
      ((runGen f e).trace.getLast? = some (.fatal .load) ∧ (runGen f e).start = none ∧
          ∀ s ∈ (runGen f e).trace, (∀ n, s ≠ .registered n) ∧ (∀ c, s ≠ .start c)) ∨
      ((runGen f e).trace.getLast? = some (.fatal .start) ∧ (runGen f e).start = some .loadErr)) := by
  rcases hbad with h | ⟨c, cfg, hfile, hcfg, h⟩
  · obtain ⟨h1, h2, h3⟩ := Server.load_fails f e h
    obtain ⟨a, b⟩ := Server.no_listen _ (Or.inl h1)
    refine ⟨a, b, Or.inl h1, fun hp hl => Or.inl ⟨?_, h1, h2⟩⟩
    rw [h3 hp hl, List.getLast?_concat]
  · obtain ⟨err, herr⟩ := Server.chains_fail e cfg h
    obtain ⟨h1, h2⟩ := Server.plugins_fail f e c cfg err hfile hcfg herr
    obtain ⟨a, b⟩ := Server.no_listen _ h1
    refine ⟨a, b, h1, fun hp hl => Or.inr ⟨?_, (h2 hp hl).1⟩⟩
    rw [(h2 hp hl).2, ← List.append_assoc, List.getLast?_concat]

-- bad configurations on the example environment: a path that names no file; a file that lists `leasetime` (the
-- plugin is called `lease_time`): both end fatal with no listenN call; the third kind follows them
example : load Server.exEnv "/nonexistent" = none ∧
    (runGen (Server.exFlags "/nonexistent") Server.exEnv).trace =
      [.parseFlags, .getLogger "main", .setLevel "info", .load "/nonexistent", .fatal .load] ∧
    (runGen (Server.exFlags "/nonexistent") Server.exEnv).listenCalls = 0 := by
  decide +kernel
example : (runGen (Server.exFlags "/etc/typo.yml") Server.exEnv).start = some .loadErr ∧
    (runGen (Server.exFlags "/etc/typo.yml") Server.exEnv).trace.getLast? = some (.fatal .start) ∧
    (runGen (Server.exFlags "/etc/typo.yml") Server.exEnv).trace.length = 21 ∧
    (runGen (Server.exFlags "/etc/typo.yml") Server.exEnv).listenCalls = 0 ∧
    (∃ cfg s, cfgOf Server.exEnv 8 = some cfg ∧ cfg.2 = some s ∧ ("leasetime", ["1h"]) ∈ s.plugins ∧
      "leasetime" ∉ GenMainReg.desired.map (fun p => p.name)) := by
  refine ⟨by decide, by decide, by decide, by decide, _, _, rfl, rfl, by decide, by decide⟩
-- and a set-up function that fails: the same good file, but `dns` rejects its arguments
example : (runGen (Server.exFlags "/etc/coredhcp.yml")
      { Server.exEnv with setup4 := fun p args => if p.name = "dns" then .error () else .ok (some (p.name, args)) }).start = some .loadErr := by
  decide +kernel

/-- **C13 end to end, DHCPv4.**  A started run, any of its DHCPv4 listeners, any datagram that parses to a request `req`
the server prepares a reply `r0` for: what the listener does with it is `HandleMsg4` over the chain loaded from the
plugin list of the server4 section of the --conf file (`SERVER_listeners_get_configured_chain`), and C13 holds of that
chain: the handlers invoked are a prefix of it, in order, each once, each given `req` and its predecessor's response,
ended early only by a handler that signalled stop; what is sent is the response returned last (nothing when nil). -/
theorem SERVER_C13_end_to_end4 {H6 : Type} (f : Flags) (e : Env Handler4 H6) (st : St)
    (hs : (runGen f e).start = some (.ok st)) (l : Listener) (hl : l ∈ (runGen f e).listeners) (hp : l.proto = .v4)
    (oob : Option Nat) (req : Req4) (r0 : Resp4) (h0 : stub4 req = some r0) :
    ∃ c cfg s, e.file f.conf = some c ∧ cfgOf e c = some cfg ∧ cfg.2 = some s ∧
      loadChain (Reg.view4 e.setup4 theReg) s.plugins = .ok (runGen f e).chain4 ∧
      recv4 e (runGen f e) l oob (some req) = dispatch4 (bound e l) oob (runGen f e).chain4 (some req) ∧
      (runChain (runGen f e).chain4 req 0 (some r0)).2 =
        (List.range (chainLen (runGen f e).chain4 req (some r0))).map (fun i => (i, chainIn (runGen f e).chain4 req (some r0) i)) ∧
      chainLen (runGen f e).chain4 req (some r0) ≤ (runGen f e).chain4.length ∧
      (∀ i, i + 1 < chainLen (runGen f e).chain4 req (some r0) → chainStops (runGen f e).chain4 req (some r0) i = false) ∧
      (chainLen (runGen f e).chain4 req (some r0) < (runGen f e).chain4.length →
        chainStops (runGen f e).chain4 req (some r0) (chainLen (runGen f e).chain4 req (some r0) - 1) = true ∧
        0 < chainLen (runGen f e).chain4 req (some r0)) ∧
      (match recv4 e (runGen f e) l oob (some req) with
       | .send resp _ _ _ _ => chainIn (runGen f e).chain4 req (some r0) (chainLen (runGen f e).chain4 req (some r0)) = some resp
       | .drop => chainIn (runGen f e).chain4 req (some r0) (chainLen (runGen f e).chain4 req (some r0)) = none
       | .panicNoIf => chainIn (runGen f e).chain4 req (some r0) (chainLen (runGen f e).chain4 req (some r0)) ≠ none) := by
  obtain ⟨c, cfg, s, hfile, hcfg, hsec, hload, hh⟩ := Server.listener4 f e st hs l hl hp
  -- the listener runs `HandleMsg4` over the loaded chain; the rest is C13 of that chain
  have hrecv : recv4 e (runGen f e) l oob (some req) = dispatch4 (bound e l) oob (runGen f e).chain4 (some req) :=
    congrArg (dispatch4 (bound e l) oob · (some req)) hh
  obtain ⟨ho1, ho2⟩ := C13_order (runGen f e).chain4 req (some r0)
  obtain ⟨hs1, hs2, hs3⟩ := C13_stop (runGen f e).chain4 req (some r0)
  refine ⟨c, cfg, s, hfile, hcfg, hsec, hload, hrecv, ho1, hs1, hs2, hs3, ?_⟩
  rw [hrecv, ← ho2]
  exact C13_sends_last4 (bound e l) oob _ req r0 h0

/-- **C13 end to end, DHCPv6**: the same for a DHCPv6 listener, the server6 section and `HandleMsg6`; a reply that the
chain returned is not sent only when the outermost relay layer of the datagram is not a Relay-Forward. -/
theorem SERVER_C13_end_to_end6 {H4 : Type} (f : Flags) (e : Env H4 Handler6) (st : St)
    (hs : (runGen f e).start = some (.ok st)) (l : Listener) (hl : l ∈ (runGen f e).listeners) (hp : l.proto = .v6)
    (oob : Option Nat) (src : Addr) (d : Pkt6) (m : Msg6) (r0 : Resp6) (hm : d.msg = some m) (h0 : stub6 m = some r0) :
    ∃ c cfg s, e.file f.conf = some c ∧ cfgOf e c = some cfg ∧ cfg.1 = some s ∧
      loadChain (Reg.view6 e.setup6 theReg) s.plugins = .ok (runGen f e).chain6 ∧
      recv6 e (runGen f e) l oob src (some d) = dispatch6 (bound e l) oob src (runGen f e).chain6 (some d) ∧
      (runChain (runGen f e).chain6 d 0 (some r0)).2 =
        (List.range (chainLen (runGen f e).chain6 d (some r0))).map (fun i => (i, chainIn (runGen f e).chain6 d (some r0) i)) ∧
      chainLen (runGen f e).chain6 d (some r0) ≤ (runGen f e).chain6.length ∧
      (∀ i, i + 1 < chainLen (runGen f e).chain6 d (some r0) → chainStops (runGen f e).chain6 d (some r0) i = false) ∧
      (chainLen (runGen f e).chain6 d (some r0) < (runGen f e).chain6.length →
        chainStops (runGen f e).chain6 d (some r0) (chainLen (runGen f e).chain6 d (some r0) - 1) = true ∧
        0 < chainLen (runGen f e).chain6 d (some r0)) ∧
      (match recv6 e (runGen f e) l oob src (some d) with
       | .send _ resp _ => chainIn (runGen f e).chain6 d (some r0) (chainLen (runGen f e).chain6 d (some r0)) = some resp
       | .drop => chainIn (runGen f e).chain6 d (some r0) (chainLen (runGen f e).chain6 d (some r0)) = none ∨
           ∃ l rest, d.layers = l :: rest ∧ l.mt ≠ 12) := by
  obtain ⟨c, cfg, s, hfile, hcfg, hsec, hload, hh⟩ := Server.listener6 f e st hs l hl hp
  have hrecv : recv6 e (runGen f e) l oob src (some d) = dispatch6 (bound e l) oob src (runGen f e).chain6 (some d) :=
    congrArg (dispatch6 (bound e l) oob src · (some d)) hh
  obtain ⟨ho1, ho2⟩ := C13_order (runGen f e).chain6 d (some r0)
  obtain ⟨hs1, hs2, hs3⟩ := C13_stop (runGen f e).chain6 d (some r0)
  refine ⟨c, cfg, s, hfile, hcfg, hsec, hload, hrecv, ho1, hs1, hs2, hs3, ?_⟩
  rw [hrecv, ← ho2]
  exact C13_sends_last6 (bound e l) oob src _ d m r0 hm h0

/-- scripted handlers in the style of the conformance run: append a tag; `stop` ends the chain -/
def Server.tagger (tag : Nat) (stop : Bool) : Handler4 := fun _ r => (r.map (fun x => { x with tags := x.tags ++ [tag] }), stop)

/-- the example file again, with handlers that are functions: `server_id` tags 1, `dns` tags 2 and stops, `router` tags 3 -/
def Server.exFileH : RawFile :=
  ⟨none, some { plugins := some [.one "server_id" ["10.0.0.1"], .one "prefix" [], .one "dns" ["8.8.8.8"], .one "router" ["10.0.0.254"]],
                iface := none, listen := none, oracles := [] }⟩

def Server.exEnvH : Env Handler4 Handler6 :=
  { file := fun p => if p = "/etc/coredhcp.yml" then some 7 else none,
    content := fun _ => Server.exFileH,
    ifs := [],
    setup4 := fun p _ => .ok (some (if p.name = "server_id" then Server.tagger 1 false else if p.name = "dns" then Server.tagger 2 true else Server.tagger 3 false)),
    setup6 := fun _ _ => .error (),
    net := fun _ => ⟨true, true, true, true⟩, ifIndex := fun _ => 2 }

-- the hypotheses of `SERVER_C13_end_to_end4` are satisfiable: the run starts, it has a DHCPv4 listener, and a
-- broadcast DISCOVER handed to it is answered by an OFFER that went through server_id and dns (which stopped the
-- chain: router's tag 3 is missing) — three handlers configured, two invoked
example :
    let r := runGen (Server.exFlags "/etc/coredhcp.yml") Server.exEnvH
    let req : Req4 := ⟨1, 1, 7, 1, [2, 0, 0, 0, 0, 1], 32768, 0#32, 0#32, none, none⟩
    (∃ st, r.start = some (.ok st)) ∧ r.chain4.length = 3 ∧
    r.listeners.map (fun l => decide (l.proto = .v4)) = [true] ∧
    r.listeners.map (fun l => match recv4 Server.exEnvH r l (some 2) (some req) with
      | .send resp peer port ifidx l2 => resp.mt == 2 && resp.tags == [1, 2] && peer == bcast4 && port == 68 && ifidx == some 2 && !l2
      | _ => false) = [true] ∧
    (stub4 req).isSome = true ∧ chainLen r.chain4 req (stub4 req) = 2 := by
  exact Server.ok_and _ (by decide +kernel)

/-- the configured built-in plugins a DHCPv4 plugin list stands for: per listed name with a DHCPv4 option-plugin
set-up (`Plug.plugSetup4`), the configuration it makes of the listed arguments -/
def Server.elems4 (oracle : String → Plug.ArgOracle) (ps : List (String × List String)) : List Sys.Elem4 :=
  ps.filterMap (fun q => match Plug.plugSetup4 q.1 (q.2.map oracle) with
    | some (.ok c) => some (.plug c)
    | _ => none)

def Server.elems6 (oracle : String → Plug.ArgOracle) (ps : List (String × List String)) : List Sys.Elem6 :=
  ps.filterMap (fun q => match Plug.plugSetup6 q.1 (q.2.map oracle) with
    | some (.ok c) => some (.plug c)
    | _ => none)

/-- `plug`: an option-plugin model (`Plug.plugSetup4/6`); the set-up functions are the model's where it knows the name,
anything elsewhere (`hok`, `herr`); `hagree`: the listed declarations have a set-up exactly when the model has one. -/
theorem Server.optChain {C E : Type} (has : PluginDecl → Bool)
    (plug : String → List Plug.ArgOracle → Option (Except Unit C)) (mk : C → E)
    (oracle : String → Plug.ArgOracle) (setups : PluginDecl → Setup E) (ds : List PluginDecl)
    (hok : ∀ d args c, plug d.name (args.map oracle) = some (.ok c) → setups d args = .ok (some (mk c)))
    (herr : ∀ d args u, plug d.name (args.map oracle) = some (.error u) → setups d args = .error ())
    (ps : List (String × List String)) (hs : List E)
    (hagree : ∀ q ∈ ps, ∀ d ∈ ds, d.name = q.1 → (plug q.1 (q.2.map oracle)).isSome = has d)
    (hl : loadChain (MainReg.viewOf ds has setups) ps = .ok hs) :
    hs = ps.filterMap (fun q => match plug q.1 (q.2.map oracle) with
      | some (.ok c) => some (mk c)
      | _ => none) ∧
    ∀ q ∈ ps, plug q.1 (q.2.map oracle) ≠ some (.error ()) := by
  induction ps generalizing hs with
  | nil => cases hl; exact ⟨rfl, nofun⟩
  | cons q rest ih =>
    obtain ⟨name, args⟩ := q
    have ih := fun hs => ih hs (fun q hq => hagree q (List.mem_cons_of_mem _ hq))
    rw [loadChain_cons, MainReg.viewOf] at hl
    cases hf : ds.find? (fun p => decide (p.name = name)) with
    | none => rw [hf] at hl; cases hl
    | some d =>
      have hdn : d.name = name := by simpa using List.find?_some hf
      have hk := hagree (name, args) (List.mem_cons_self ..) d (List.mem_of_find?_eq_some hf) hdn
      simp only [hf, ← hk] at hl
      -- the model decides: no set-up, a set-up that fails, a set-up that gives the configured plugin
      cases hp : plug name (args.map oracle) with
      | none =>
        simp only [hp, Option.isSome_none, Bool.false_eq_true, if_false] at hl
        obtain ⟨i1, i2⟩ := ih hs hl
        refine ⟨?_, List.forall_mem_cons.mpr ⟨?_, i2⟩⟩
        · rw [i1, List.filterMap_cons, hp]
        · rw [hp]
          exact nofun
      | some x =>
        simp only [hp, Option.isSome_some, if_true] at hl
        cases x with
        | error u =>
          rw [herr d args u (hdn ▸ hp)] at hl
          cases hl
        | ok c =>
          rw [hok d args c (hdn ▸ hp)] at hl
          dsimp only at hl
          cases hrest : loadChain (MainReg.viewOf ds has setups) rest with
          | error err => rw [hrest] at hl; cases hl
          | ok tl =>
            rw [hrest] at hl
            cases hl
            obtain ⟨i1, i2⟩ := ih tl hrest
            refine ⟨?_, List.forall_mem_cons.mpr ⟨?_, i2⟩⟩
            · rw [i1, List.filterMap_cons, hp]
            · rw [hp]
              exact nofun

theorem Server.optChain4 (oracle : String → Plug.ArgOracle) (other : PluginDecl → Setup Sys.Elem4)
    (ps : List (String × List String)) (hs : List Sys.Elem4)
    (hopt : ∀ q ∈ ps, q.1 ≠ "file" ∧ q.1 ≠ "range")
    (hl : loadChain (Reg.view4 (optSetup4 oracle other) theReg) ps = .ok hs) :
    hs = Server.elems4 oracle ps ∧ ∀ q ∈ ps, Plug.plugSetup4 q.1 (q.2.map oracle) ≠ some (.error ()) := by
  rw [MainReg.view4_eq _ theReg Server.theReg_ok] at hl
  have hok : ∀ (d : PluginDecl) (args : List String) c, Plug.plugSetup4 d.name (args.map oracle) = some (.ok c) →
      optSetup4 oracle other d args = .ok (some (.plug c)) := by
    intro d args c hx
    rw [optSetup4, hx]
  have herr : ∀ (d : PluginDecl) (args : List String) u, Plug.plugSetup4 d.name (args.map oracle) = some (.error u) →
      optSetup4 oracle other d args = .error () := by
    intro d args u hx
    rw [optSetup4, hx]
  have hagree : ∀ q ∈ ps, ∀ d ∈ GenMainReg.desired, d.name = q.1 →
      (Plug.plugSetup4 q.1 (q.2.map oracle)).isSome = d.has4 := by
    intro q hq d hd hn
    obtain ⟨hfile, hrange⟩ := hopt q hq
    rw [← hn] at hfile hrange ⊢
    exact (MainReg.decl_iff_model _ d hd hfile).1 hrange
  obtain ⟨h1, h2⟩ := Server.optChain (·.has4) Plug.plugSetup4 Sys.Elem4.plug oracle _ _ hok herr ps hs hagree hl
  -- `exact ⟨h1, h2⟩` fails: the `match` of `optChain` (any `C`) and that of `elems4` are two auxiliary definitions
  refine ⟨h1.trans (congrArg (List.filterMap · ps) (funext fun q => ?_)), h2⟩
  rcases Plug.plugSetup4 q.1 (q.2.map oracle) with _ | _ | _ <;> rfl

theorem Server.optChain6 (oracle : String → Plug.ArgOracle) (other : PluginDecl → Setup Sys.Elem6)
    (ps : List (String × List String)) (hs : List Sys.Elem6)
    (hopt : ∀ q ∈ ps, q.1 ≠ "file" ∧ q.1 ≠ "prefix")
    (hl : loadChain (Reg.view6 (optSetup6 oracle other) theReg) ps = .ok hs) :
    hs = Server.elems6 oracle ps ∧ ∀ q ∈ ps, Plug.plugSetup6 q.1 (q.2.map oracle) ≠ some (.error ()) := by
  rw [MainReg.view6_eq _ theReg Server.theReg_ok] at hl
  have hok : ∀ (d : PluginDecl) (args : List String) c, Plug.plugSetup6 d.name (args.map oracle) = some (.ok c) →
      optSetup6 oracle other d args = .ok (some (.plug c)) := by
    intro d args c hx
    rw [optSetup6, hx]
  have herr : ∀ (d : PluginDecl) (args : List String) u, Plug.plugSetup6 d.name (args.map oracle) = some (.error u) →
      optSetup6 oracle other d args = .error () := by
    intro d args u hx
    rw [optSetup6, hx]
  have hagree : ∀ q ∈ ps, ∀ d ∈ GenMainReg.desired, d.name = q.1 →
      (Plug.plugSetup6 q.1 (q.2.map oracle)).isSome = d.has6 := by
    intro q hq d hd hn
    obtain ⟨hfile, hprefix⟩ := hopt q hq
    rw [← hn] at hfile hprefix ⊢
    exact (MainReg.decl_iff_model _ d hd hfile).2 hprefix
  obtain ⟨h1, h2⟩ := Server.optChain (·.has6) Plug.plugSetup6 Sys.Elem6.plug oracle _ _ hok herr ps hs hagree hl
  -- as in `optChain4`
  refine ⟨h1.trans (congrArg (List.filterMap · ps) (funext fun q => ?_)), h2⟩
  rcases Plug.plugSetup6 q.1 (q.2.map oracle) with _ | _ | _ <;> rfl

/-- **The running server is `Sys.serve4`.**  The DHCPv4 set-up functions are those of the option-plugin models
(`optSetup4`: `Plug.plugSetup4` on what the standard library answers for the argument strings; unit `setups` ties these
to the Go functions), whatever those of `file` and `range` are.  For a DHCPv4 listener of a started run whose server4
section lists neither `file` nor `range`: every listed set-up accepted its arguments, the loaded chain is
`Server.elems4` of the listed plugins, and what the listener does with ANY datagram is `Sys.serve4` over that list:
every `SYS_*` theorem of Props/System.lean is about this listener; C11 and C15 are spelled out. -/
theorem SERVER_builtin_chain_is_sys4 {H6 : Type} (f : Flags) (e : Env Sys.Elem4 H6)
    (oracle : String → Plug.ArgOracle) (other : PluginDecl → Setup Sys.Elem4) (he : e.setup4 = optSetup4 oracle other)
    (st : St) (hs : (runGen f e).start = some (.ok st)) (l : Listener) (hl : l ∈ (runGen f e).listeners)
    (hp : l.proto = .v4) :
    ∃ c cfg s, e.file f.conf = some c ∧ cfgOf e c = some cfg ∧ cfg.2 = some s ∧
      ((∀ q ∈ s.plugins, q.1 ≠ "file" ∧ q.1 ≠ "range") →
        (∀ q ∈ s.plugins, Plug.plugSetup4 q.1 (q.2.map oracle) ≠ some (.error ())) ∧
        (runGen f e).chain4 = Server.elems4 oracle s.plugins ∧
        ∀ (oob : Option Nat) (input : Option Sys.Req4),
          recvSys4 e (runGen f e) l oob input = Sys.serve4 (bound e l) oob (Server.elems4 oracle s.plugins) input ∧
          C11.holds (input.map Sys.absReq4) (Sys.absOut4 (recvSys4 e (runGen f e) l oob input)) = true ∧
          C15.holds (bound e l) oob (input.map Sys.absReq4) (Sys.absOut4 (recvSys4 e (runGen f e) l oob input)) = true) := by
  obtain ⟨c, cfg, s, hfile, hcfg, hsec, hload, hh⟩ := Server.listener4 f e st hs l hl hp
  refine ⟨c, cfg, s, hfile, hcfg, hsec, ?_⟩
  intro hopt
  rw [he] at hload
  obtain ⟨h1, h2⟩ := Server.optChain4 oracle other s.plugins _ hopt hload
  refine ⟨h2, h1, ?_⟩
  intro oob input
  have hr : recvSys4 e (runGen f e) l oob input = Sys.serve4 (bound e l) oob (Server.elems4 oracle s.plugins) input := by
    unfold recvSys4
    rw [hh, h1]
  refine ⟨hr, ?_, ?_⟩
  · rw [hr]; exact SYS_C11 _ _ _ _
  · rw [hr]; exact SYS_C15 _ _ _ _

/-- **The running server is `Sys.serve6`**: the same for DHCPv6, the server6 section, neither `file` nor `prefix`
listed; C12 spelled out. -/
theorem SERVER_builtin_chain_is_sys6 {H4 : Type} (f : Flags) (e : Env H4 Sys.Elem6)
    (oracle : String → Plug.ArgOracle) (other : PluginDecl → Setup Sys.Elem6) (he : e.setup6 = optSetup6 oracle other)
    (st : St) (hs : (runGen f e).start = some (.ok st)) (l : Listener) (hl : l ∈ (runGen f e).listeners)
    (hp : l.proto = .v6) :
    ∃ c cfg s, e.file f.conf = some c ∧ cfgOf e c = some cfg ∧ cfg.1 = some s ∧
      ((∀ q ∈ s.plugins, q.1 ≠ "file" ∧ q.1 ≠ "prefix") →
        (∀ q ∈ s.plugins, Plug.plugSetup6 q.1 (q.2.map oracle) ≠ some (.error ())) ∧
        (runGen f e).chain6 = Server.elems6 oracle s.plugins ∧
        ∀ (oob : Option Nat) (src : Addr) (input : Option Sys.Pkt6),
          recvSys6 e (runGen f e) l oob src input = Sys.serve6 (bound e l) oob src (Server.elems6 oracle s.plugins) input ∧
          C12.holds (bound e l) oob src (input.map Sys.absPkt6) (Sys.absOut6 (recvSys6 e (runGen f e) l oob src input)) = true) := by
  obtain ⟨c, cfg, s, hfile, hcfg, hsec, hload, hh⟩ := Server.listener6 f e st hs l hl hp
  refine ⟨c, cfg, s, hfile, hcfg, hsec, ?_⟩
  intro hopt
  rw [he] at hload
  obtain ⟨h1, h2⟩ := Server.optChain6 oracle other s.plugins _ hopt hload
  refine ⟨h2, h1, ?_⟩
  intro oob src input
  have hr : recvSys6 e (runGen f e) l oob src input = Sys.serve6 (bound e l) oob src (Server.elems6 oracle s.plugins) input := by
    unfold recvSys6
    rw [hh, h1]
  refine ⟨hr, ?_⟩
  rw [hr]; exact SYS_C12 _ _ _ _ _

/-- what the standard library answers for the argument strings of the example -/
def Server.exOracle : String → Plug.ArgOracle := fun s =>
  if s = "8.8.8.8" then { raw := Plug.strBytes s, ip := some (.v4 [8, 8, 8, 8]) }
  else if s = "1500" then { raw := Plug.strBytes s, int := some 1500 }
  else { raw := Plug.strBytes s }

/-- a server4 section listing `dns 8.8.8.8`, `prefix` (no DHCPv4 side) and `mtu 1500`, with the set-up functions of the
option-plugin models -/
def Server.exEnvSys : Env Sys.Elem4 Sys.Elem6 :=
  { file := fun p => if p = "/etc/coredhcp.yml" then some 7 else none,
    content := fun _ => ⟨none, some { plugins := some [.one "dns" ["8.8.8.8"], .one "prefix" [], .one "mtu" ["1500"]],
                                      iface := none, listen := none, oracles := [] }⟩,
    ifs := [],
    setup4 := optSetup4 Server.exOracle (fun _ _ => .error ()),
    setup6 := optSetup6 Server.exOracle (fun _ _ => .error ()),
    net := fun _ => ⟨true, true, true, true⟩, ifIndex := fun _ => 2 }

-- the hypotheses of `SERVER_builtin_chain_is_sys4` are satisfiable: the run starts, has one DHCPv4 listener, the
-- section lists neither file nor range, the chain is dns then mtu, and a DISCOVER asking for options 6 and 26 is
-- answered with both
example :
    let r := runGen (Server.exFlags "/etc/coredhcp.yml") Server.exEnvSys
    let req : Sys.Req4 := ⟨1, 7, 1, [2, 0, 0, 0, 0, 1], 32768, [0, 0, 0, 0], [0, 0, 0, 0], [0, 0, 0, 0], [(53, [1]), (55, [6, 26])]⟩
    (∃ st, r.start = some (.ok st)) ∧
    r.listeners.map (fun l => decide (l.proto = .v4)) = [true] ∧
    r.chain4.map (fun x => match x with | .plug c => some c | _ => none) = [some (.dns [[8, 8, 8, 8]]), some (.mtu 1500)] ∧
    r.listeners.map (fun l => match recvSys4 Server.exEnvSys r l (some 2) (some req) with
      | .send resp _ port _ _ => Plug.lookup 6 resp.opts == some [8, 8, 8, 8] && Plug.lookup 26 resp.opts == some [5, 220] && port == 68
      | _ => false) = [true] := by
  exact Server.ok_and _ (by decide +kernel)

end CoreDhcp
