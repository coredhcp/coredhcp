/-
GEN (set-ups of the option plugins; unit `setups` of DESIGN.md §1.5b) — Generated/Setups.lean, regenerated on every run from
the go/ast of the `setup4` / `setup6` functions of the twelve plugins and of their helpers `checkDomains`, `parseArgs`, `argMap`,
is equal to the hand-written model `Plug.<plugin>.setup` that C19 is about:

    (GenSetup.<plugin>N args).mapError (fun _ => ()) = Plug.<plugin>.setup args

The model collapses all errors to `()`; the generated text keeps which error it is and whether the Go code returns it with a
nil handler (`failNil`) or, as router / dns / staticroute do inside their loops, with a non-nil one (`failWithHandler`): both
are `.error`, since the caller tests `err != nil` only.

Where the Go configuration has another shape than the model's `Cfg`, the statement relates the two by a function of
`SetupView`: router and dns keep the `[]net.IP` as parsed, the model the To4 / To16 bytes the handler sends (`ips4`, `ips16`);
staticroute keeps `(*net.IPNet, net.IP)`, the model the RFC 3442 triple (`routes`); serverid's variable may be nil, the model's
cannot (`.map some`); nbp keeps `dhcpv4.Option` / `dhcpv6.Option` values, the model the strings (`nbp4`, `nbp6`).

One equality needs a hypothesis: netmask (`SetupView.To4Len`, implied by `ArgOracle.wf`); `GEN_setup_netmask4_needs_len` is an
oracle outside it on which the sides differ. All others hold for every oracle, well-formed or not.

`GenSetup.<plugin>N` is `<plugin>NFrom` at the Go zero values of the package-level variables (first set-up of the process);
the end of the file states what a second set-up in the same process does, which the model does not capture.

The vocabulary (`a.ip`, `ipTo4`, `a.sr`, `lowerAscii`, …) is fixed in gen11.go. `strings.ToLower ↦ Plug.lowerAscii` is exact
for ASCII input only: Go lowers U+0130 to `i`, so `server_id: DUİD-LL 00:11:22:33:44:55` is ACCEPTED by the Go set-up while
model and generated text (which share `lowerAscii`) reject it. The equalities below are not affected; the tie of either side
to the code is.
-/
import CoreDhcp.Generated.Setups
import CoreDhcp.Proofs.OptPlug
namespace CoreDhcp
open Plug

/-! `SetupView.collapse*`, `mapError_*` and, further down, `loop_then_ok` say what the views of this file do on the two
constructors of `Except`; they characterise them, and no proof below rewrites with them. -/

namespace SetupView

/-- errors collapsed, as the model says `.error ()` for every failure; the statements below spell it out, `.mapError (fun _ => ())` -/
def collapse {ε α : Type} (e : Except ε α) : Except Unit α := e.mapError (fun _ => ())

theorem collapse_error {ε α : Type} (e : ε) : collapse (.error e : Except ε α) = .error () := rfl
theorem collapse_ok {ε α : Type} (a : α) : collapse (.ok a : Except ε α) = .ok a := rfl

end SetupView
open SetupView

theorem mapError_error' {ε ε' α : Type} (f : ε → ε') (e : ε) : Except.mapError f (.error e : Except ε α) = .error (f e) := rfl
theorem mapError_ok' {ε ε' α : Type} (f : ε → ε') (a : α) : Except.mapError f (.ok a : Except ε α) = .ok a := rfl
theorem mapError_failNil {ε' α : Type} (f : GenSetup.Err → ε') (e : GenSetup.Err) :
    Except.mapError f (GenSetup.failNil e : Except GenSetup.Err α) = .error (f e) := rfl
theorem mapError_failWithHandler {ε' α : Type} (f : GenSetup.Err → ε') (e : GenSetup.Err) :
    Except.mapError f (GenSetup.failWithHandler e : Except GenSetup.Err α) = .error (f e) := rfl

theorem strBytes_empty : strBytes "" = [] := by decide +kernel

theorem GEN_setup_mtu4_eq (args : List ArgOracle) :
    (GenSetup.mtu4 args).mapError (fun _ => ()) = Plug.mtu.setup args := by
  unfold GenSetup.mtu4 Plug.mtu.setup single
  match args with
  | [] => rfl
  | [a] =>
    simp only [GenSetup.arg, List.getD_cons_zero]
    cases a.int with
    | none => rfl
    | some n =>
      -- the range test is the same on both sides; the generated side has it under `mapError`
      simp only [apply_ite (Except.mapError _)]
      rfl
  | a :: b :: rest => rfl

theorem GEN_setup_sleep4_eq (args : List ArgOracle) :
    (GenSetup.sleep4 args).mapError (fun _ => ()) = Plug.sleep.setup args := by
  unfold GenSetup.sleep4 Plug.sleep.setup single
  match args with
  | [] => rfl
  | [a] =>
    simp only [GenSetup.arg, List.getD_cons_zero]
    cases a.dur <;> rfl
  | a :: b :: rest => rfl

theorem GEN_setup_sleep6_eq (args : List ArgOracle) :
    (GenSetup.sleep6 args).mapError (fun _ => ()) = Plug.sleep.setup args := GEN_setup_sleep4_eq args

theorem GEN_setup_leasetime4_eq (args : List ArgOracle) :
    (GenSetup.leasetime4 args).mapError (fun _ => ()) = Plug.leasetime.setup args := by
  unfold GenSetup.leasetime4 Plug.leasetime.setup
  match args with
  | [] => rfl
  | a :: rest =>
    simp only [GenSetup.arg, List.getD_cons_zero]
    cases a.dur with
    | none => rfl
    | some d =>
      simp only [apply_ite (Except.mapError _)]
      rfl

theorem GEN_setup_ipv6only4_eq (args : List ArgOracle) :
    (GenSetup.ipv6only4 args).mapError (fun _ => ()) = Plug.ipv6only.setup args := by
  unfold GenSetup.ipv6only4 GenSetup.ipv6only4From Plug.ipv6only.setup
  match args with
  | [] => rfl
  | a :: rest =>
    simp only [GenSetup.arg, List.getD_cons_zero]
    cases a.dur with
    | none => rfl
    | some d =>
      simp only [apply_ite (Except.mapError _)]
      -- the code asks `len(args) > 1` where the model asks `rest = []`
      cases rest with
      | nil => rfl
      | cons b rest => rfl

theorem argMap_lookup (raw : Bytes) :
    GenSetup.lookupStr GenSetup.autoconfigure_argMap raw = Plug.autoconfigure.argValue raw := by
  have h0 : strBytes "0" = [48] := by decide +kernel
  have h1 : strBytes "1" = [49] := by decide +kernel
  unfold GenSetup.autoconfigure_argMap Plug.autoconfigure.argValue
  simp only [GenSetup.lookupStr, h0, h1]

theorem GEN_setup_autoconfigure4_eq (args : List ArgOracle) :
    (GenSetup.autoconfigure4 args).mapError (fun _ => ()) = Plug.autoconfigure.setup args := by
  unfold GenSetup.autoconfigure4 GenSetup.autoconfigure4From Plug.autoconfigure.setup
  match args with
  | [] => rfl
  | a :: rest =>
    simp only [GenSetup.arg, List.getD_cons_zero, argMap_lookup]
    cases Plug.autoconfigure.argValue a.raw with
    | none => rfl
    | some v => cases rest <;> rfl

/-- the generated configuration is `v4ServerID : net.IP` itself (nil ↦ none, as the handler's guard
`if v4ServerID == nil` sees it); the model keeps the bytes: `some b` on the left exactly when the model has `b` -/
theorem GEN_setup_serverid4_eq (args : List ArgOracle) :
    (GenSetup.serverid4 args).mapError (fun _ => ()) = (Plug.serverid4.setup args).map some := by
  unfold GenSetup.serverid4 Plug.serverid4.setup
  match args with
  | [] => rfl
  | a :: rest =>
    simp only [GenSetup.arg, List.getD_cons_zero, GenSetup.ipTo4]
    cases a.ip with
    | none => rfl
    | some ip =>
      simp only [Option.bind_some]
      cases ip.to4 <;> rfl

theorem GEN_setup_serverid6_eq (args : List ArgOracle) :
    (GenSetup.serverid6 args).mapError (fun _ => ()) = (Plug.serverid6.setup args).map some := by
  unfold GenSetup.serverid6 Plug.serverid6.setup
  match args with
  | [] => rfl
  | [a] => rfl
  | t :: v :: rest =>
    have hlen : ¬ ((t :: v :: rest).length < 2) := by simp
    simp only [if_neg hlen, GenSetup.arg, strBytes_empty, List.getD_cons_zero, List.getD_cons_succ]
    by_cases ht : t.raw = []
    · rw [if_pos ht, if_pos (.inl ht)]; rfl
    · by_cases hv : v.raw = []
      · rw [if_neg ht, if_pos hv, if_pos (.inr hv)]; rfl
      · rw [if_neg ht, if_neg hv, if_neg (not_or.mpr ⟨ht, hv⟩)]
        cases v.mac with
        | none => rfl
        | some mac =>
          -- the same tests of the DUID type in the same order on both sides: `mapError` and `map some` go inside them, the
          -- branches agree one by one, and the two refusals of the code (EN / UUID, opaque) are one `.error ()`
          simp only [apply_ite (Except.mapError fun _ => ()), apply_ite (Except.map some)]
          exact ite_congr rfl (fun _ => rfl) (fun _ => ite_congr rfl (fun _ => rfl) (fun _ => ite_self _))

namespace SetupView
/-- `opt66` / `opt67` as setup4 leaves them (`*dhcpv4.Option`: nil ↦ none, else code and value), from
the model's configuration: option 66 only for a TFTP URL, option 67 always -/
def nbp4 (c : Plug.nbp4.Cfg) : Option (Nat × Bytes) × Option (Nat × Bytes) :=
  (c.o66.map (fun v => (66, v)), some (67, c.o67))

/-- `opt59` / `opt60` (`dhcpv6.Option`): option 59 always; option 60 = `OptBootFileParam(params)`, one
length-prefixed parameter, when `params` is not empty (the model keeps the raw string, its handler encodes it) -/
def nbp6 (c : Plug.nbp6.Cfg) : Option (Nat × Bytes) × Option (Nat × Bytes) :=
  (some (59, c.o59), c.o60.map (fun p => (60, encBootParams [p])))
end SetupView

theorem nbp_parseArgs_eq (args : List ArgOracle) :
    GenSetup.nbp_parseArgs args =
      match single args with
      | none => .error (.new "Exactly one argument must be passed to NBP plugin, got %d")
      | some a => match a.url with
        | none => .error (.lib "url.Parse")
        | some u => .ok u := by
  unfold GenSetup.nbp_parseArgs single
  match args with
  | [] => rfl
  | [a] =>
    simp only [GenSetup.arg, List.getD_cons_zero]
    cases a.url <;> rfl
  | a :: b :: rest => rfl

theorem GEN_setup_nbp4_eq (args : List ArgOracle) :
    (GenSetup.nbp4 args).mapError (fun _ => ()) = (Plug.nbp4.setup args).map SetupView.nbp4 := by
  unfold GenSetup.nbp4 GenSetup.nbp4From Plug.nbp4.setup
  rw [nbp_parseArgs_eq]
  cases single args with
  | none => rfl
  | some a =>
    dsimp only
    cases a.url with
    | none => rfl
    | some u =>
      dsimp only
      split <;> rfl

theorem GEN_setup_nbp6_eq (args : List ArgOracle) :
    (GenSetup.nbp6 args).mapError (fun _ => ()) = (Plug.nbp6.setup args).map SetupView.nbp6 := by
  unfold GenSetup.nbp6 GenSetup.nbp6From Plug.nbp6.setup
  rw [nbp_parseArgs_eq]
  cases single args with
  | none => rfl
  | some a =>
    dsimp only
    cases a.url with
    | none => rfl
    | some u =>
      simp only [strBytes_empty]
      by_cases hp : u.params = []
      · rw [if_neg (not_not_intro hp), if_pos hp]; rfl
      · rw [if_pos hp, if_neg hp]; rfl

/-! ## netmask

The Go code builds the mask from the first four bytes of the To4() result, `net.IPv4Mask(ip[0], ip[1],
ip[2], ip[3])`, and the generated text says so (`ipv4Mask (byteAt b 0) …`); the model checks and keeps the
To4() bytes as the oracle gives them.  The two agree when To4() is four bytes long — which `net.IP.To4`
guarantees and `ArgOracle.wf` records — and differ on an ill-formed oracle (`GEN_setup_netmask4_needs_len`). -/

def SetupView.To4Len (args : List ArgOracle) : Prop :=
  ∀ a ∈ args, ∀ i b, a.ip = some i → i.to4 = some b → b.length = 4

theorem SetupView.to4Len_of_wf (args : List ArgOracle) (hwf : ∀ a ∈ args, a.wf = true) : SetupView.To4Len args :=
  fun a ha i b hi hb => to4_len i b (wf_ip a i (hwf a ha) hi) hb

theorem ipv4Mask_bytes (b : Bytes) (h : b.length = 4) :
    GenSetup.ipv4Mask (GenSetup.byteAt b 0) (GenSetup.byteAt b 1) (GenSetup.byteAt b 2) (GenSetup.byteAt b 3) = b := by
  match b, h with
  | [_, _, _, _], _ => rfl

theorem GEN_setup_netmask4_eq (args : List ArgOracle) (h4 : SetupView.To4Len args) :
    (GenSetup.netmask4 args).mapError (fun _ => ()) = Plug.netmask.setup args := by
  unfold GenSetup.netmask4 Plug.netmask.setup single
  match args, h4 with
  | [], _ => rfl
  | a :: b :: rest, _ => rfl
  | [a], h4 =>
    simp only [GenSetup.arg, List.getD_cons_zero, apply_ite (Except.mapError _)]
    cases hi : a.ip with
    | none => rfl
    | some ip =>
      -- the tests are the same on both sides (`checkValid` negated, with the branches swapped); the matches are not
      simp only [GenSetup.ipTo4, Option.bind_some]
      cases ht : ip.to4 with
      | none => rfl
      | some m =>
        -- the mask the code builds from the first four bytes is the To4() result itself
        simp only [ipv4Mask_bytes m (h4 a (.head _) ip m hi ht), ite_not, apply_ite (Except.mapError _)]
        rfl

theorem GEN_setup_netmask4_eq_wf (args : List ArgOracle) (hwf : ∀ a ∈ args, a.wf = true) :
    (GenSetup.netmask4 args).mapError (fun _ => ()) = Plug.netmask.setup args :=
  GEN_setup_netmask4_eq args (SetupView.to4Len_of_wf args hwf)

/-- outside the hypothesis: an oracle whose "To4()" is the two bytes 255.0 — the code pads to 255.0.0.0 (a
valid mask), the model checks the two bytes as they are (not a mask) -/
theorem GEN_setup_netmask4_needs_len :
    (GenSetup.netmask4 [{ raw := [], ip := some (.v4 [255, 0]) }]).mapError (fun _ => ()) = .ok [255, 0, 0, 0] ∧
    Plug.netmask.setup [{ raw := [], ip := some (.v4 [255, 0]) }] = .error () := by
  constructor <;> rfl

/-! ## the loops over the arguments: router, dns, staticroute

The Go set-ups keep what the standard library returned (`[]net.IP`, `*dhcpv4.Route` with an `*net.IPNet`); the
model keeps what the handlers put on the wire (To4 / To16 bytes, the RFC 3442 triple).  `SetupView.ips4`,
`ips16`, `route` are that step, written after the library's encoders: `dhcpv4.IPs.ToBytes` writes `ip.To4()` of
every element (nothing for nil), `dhcpv6.optDNS.ToBytes` writes `ip.To16()`, `dhcpv4.Route.Marshal` writes the
prefix length, `Dest.IP.To4()` and `Router.To4()`. -/

namespace SetupView
def ips4 (l : List (Option IpLit)) : List Bytes := l.map (fun ip => (GenSetup.ipTo4 ip).getD [])
def ips16 (l : List (Option IpLit)) : List Bytes := l.map (fun ip => (GenSetup.ipTo16 ip).getD [])
def route (r : GenSetup.Route) : Plug.Route :=
  ⟨(cidrTo4 r.dest.ip).getD [], r.dest.ones, (GenSetup.ipTo4 r.router).getD []⟩
def routes (l : List GenSetup.Route) : List Plug.Route := l.map route

/-- a loop `for _, x := range xs { v := f(x); if v is bad { return error }; acc = append(acc, g(x)) }`, seen
through a view `w` of the accumulated list: it fails where `allSome f` does, and appends the views -/
theorem forEach_allSome {σ α β : Type} (body : List σ → α → Except GenSetup.Err (List σ)) (f : α → Option β)
    (g : α → σ) (w : σ → β)
    (hbad : ∀ acc x, f x = none → ∃ e, body acc x = .error e)
    (hgood : ∀ acc x b, f x = some b → body acc x = .ok (acc ++ [g x]) ∧ w (g x) = b) :
    ∀ (xs : List α) (init : List σ),
      ((GenSetup.forEach body init xs).mapError (fun _ => ())).map (List.map w) =
        match allSome f xs with
        | some l => .ok (init.map w ++ l)
        | none => .error ()
  | [], init => by
    rw [GenSetup.forEach, allSome]
    exact congrArg Except.ok (List.append_nil _).symm
  | x :: xs, init => by
    cases hf : f x with
    | none =>
      obtain ⟨e, he⟩ := hbad init x hf
      simp only [GenSetup.forEach, he, allSome, hf]
      rfl
    | some b =>
      obtain ⟨hb, hw⟩ := hgood init x b hf
      have ih := forEach_allSome body f g w hbad hgood xs (init ++ [g x])
      simp only [GenSetup.forEach, hb, allSome, hf]
      rw [ih]
      cases allSome f xs with
      | none => rfl
      | some l =>
        -- the view of what this round appended is the `b` the model has at this place
        show Except.ok (List.map w (init ++ [g x]) ++ l) = Except.ok (List.map w init ++ b :: l)
        rw [List.map_append, List.map_singleton, hw, List.append_assoc]
        rfl
end SetupView

theorem length_lt_one {α : Type} (l : List α) : l.length < 1 ↔ l = [] := by
  cases l <;> simp

/-- the `match` that follows each argument loop hands on what the loop returned (no proof below rewrites with it: each
generated definition has a matcher of its own, which `rw` does not see through; they go by `cases`) -/
theorem loop_then_ok {σ : Type} (r : Except GenSetup.Err σ) :
    (match r with | .error e => .error e | .ok l1 => .ok l1) = r := by
  cases r <;> rfl

/-- The set-ups that loop over IP arguments (router, dns v4, dns v6), for any loop body that refuses an argument where `f`
is `none` and appends the address as parsed otherwise, started at `init`; `w` is what the handler sends of an address.
Stated at this type and not for any accumulator: the three generated definitions then share one matcher with it. -/
theorem ipLoop_setup (body : List (Option IpLit) → ArgOracle → Except GenSetup.Err (List (Option IpLit)))
    (f : ArgOracle → Option Bytes) (w : Option IpLit → Bytes) (e0 e1 : GenSetup.Err)
    (hbody : ∀ acc x, body acc x = if f x = none then .error e1 else .ok (acc ++ [x.ip]))
    (hw : ∀ x b, f x = some b → w x.ip = b) (init : List (Option IpLit)) (args : List ArgOracle) :
    (((if args.length < 1 then GenSetup.failNil e0
       else match GenSetup.forEach body init args with
         | .error e => .error e
         | .ok l1 => .ok l1 : Except GenSetup.Err (List (Option IpLit))).mapError (fun _ => ())).map (List.map w)) =
      ((if args = [] then .error ()
       else match allSome f args with
         | some l => .ok l
         | none => .error () : Except Unit (List Bytes))).map (init.map w ++ ·) := by
  by_cases h : args = []
  · subst h; rfl
  · have hl : ¬ args.length < 1 := fun hl => h ((length_lt_one args).mp hl)
    simp only [if_neg hl, if_neg h]
    refine Eq.trans ?_ ((SetupView.forEach_allSome body f (fun a => a.ip) w ?_ ?_ args init).trans ?_)
    · cases GenSetup.forEach body init args <;> rfl
    · intro acc x hx
      exact ⟨e1, by rw [hbody, if_pos hx]⟩
    · intro acc x b hx
      have hne : f x ≠ none := hx ▸ Option.some_ne_none b
      refine ⟨?_, hw x b hx⟩
      rw [hbody, if_neg hne]
    · cases allSome f args <;> rfl

theorem to4_getD (x : ArgOracle) (b : Bytes) (h : x.ip.bind IpLit.to4 = some b) : (GenSetup.ipTo4 x.ip).getD [] = b := by
  rw [GenSetup.ipTo4, h]; rfl

/-- router: a second set-up APPENDS to the routers of the first (the generated `dns4From`, `dns6From` have the same
shape; for them only the first set-up is stated) -/
theorem GEN_setup_router4_accumulates (init : List (Option IpLit)) (args : List ArgOracle) :
    ((GenSetup.router4From init args).mapError (fun _ => ())).map SetupView.ips4 =
      (Plug.router.setup args).map (SetupView.ips4 init ++ ·) :=
  ipLoop_setup GenSetup.router4_loop1 (fun a => a.ip.bind IpLit.to4) (fun ip => (GenSetup.ipTo4 ip).getD []) _ _
    (fun _ _ => rfl) to4_getD init args

theorem GEN_setup_router4_eq (args : List ArgOracle) :
    ((GenSetup.router4 args).mapError (fun _ => ())).map SetupView.ips4 = Plug.router.setup args := by
  rw [GenSetup.router4, GEN_setup_router4_accumulates]
  cases Plug.router.setup args <;> rfl

theorem GEN_setup_dns4_eq (args : List ArgOracle) :
    ((GenSetup.dns4 args).mapError (fun _ => ())).map SetupView.ips4 = Plug.dns4.setup args := by
  refine (ipLoop_setup GenSetup.dns4_loop1 (fun a => a.ip.bind IpLit.to4) (fun ip => (GenSetup.ipTo4 ip).getD []) _ _
    (fun _ _ => rfl) to4_getD [] args).trans ?_
  show (Plug.dns4.setup args).map _ = _
  cases Plug.dns4.setup args <;> rfl

/-- `server.To16() == nil` holds for nil only: every literal net.ParseIP accepts has a To16() -/
theorem GEN_setup_dns6_eq (args : List ArgOracle) :
    ((GenSetup.dns6 args).mapError (fun _ => ())).map SetupView.ips16 = Plug.dns6.setup args := by
  refine (ipLoop_setup GenSetup.dns6_loop1 (fun a => a.ip.map IpLit.to16) (fun ip => (GenSetup.ipTo16 ip).getD []) _ _
    (fun _ _ => rfl) (fun x b hb => ?_) [] args).trans ?_
  · rw [GenSetup.ipTo16, hb]; rfl
  · show (Plug.dns6.setup args).map _ = _
    cases Plug.dns6.setup args <;> rfl

theorem staticroute_loop_spec (acc : List GenSetup.Route) (x : ArgOracle) :
    (staticroute.route x = none ∧ ∃ e, GenSetup.staticroute4_loop1 acc x = .error e) ∨
    (∃ c, x.sr.cidr = some c ∧
      GenSetup.staticroute4_loop1 acc x = .ok (acc ++ [{ dest := c, router := x.sr.router }]) ∧
      staticroute.route x = some (SetupView.route { dest := c, router := x.sr.router })) := by
  unfold GenSetup.staticroute4_loop1 staticroute.route
  -- the tests of the code in the model's order; in each refusing branch both sides refuse, which `simp` sees from the
  -- named facts
  by_cases hf : x.sr.fields = 2
  · cases hc : x.sr.cidr with
    | none => left; simp [hf]
    | some c =>
      cases hd : cidrTo4 c.ip with
      | none => left; simp [hf, hd]
      | some d =>
        by_cases hb : c.bits = 32
        · cases hr : x.sr.router with
          | none => left; simp [hf, hd, hb]
          | some rr =>
            cases ht : rr.to4 with
            | none => left; simp [hf, hd, hb, GenSetup.ipTo4, ht]
            | some g =>
              right
              refine ⟨c, rfl, ?_, ?_⟩ <;> simp [hf, hd, hb, GenSetup.ipTo4, ht, SetupView.route]
        · left; simp [hf, hd, hb]
  · left; simp [hf]

theorem GEN_setup_staticroute4_eq (args : List ArgOracle) :
    ((GenSetup.staticroute4 args).mapError (fun _ => ())).map SetupView.routes = Plug.staticroute.setup args := by
  unfold GenSetup.staticroute4 Plug.staticroute.setup
  by_cases h : args = []
  · subst h; rfl
  · have hl : ¬ args.length < 1 := fun hl => h ((length_lt_one args).mp hl)
    simp only [if_neg hl, if_neg h]
    refine Eq.trans ?_ ((SetupView.forEach_allSome GenSetup.staticroute4_loop1 staticroute.route
      (fun a => { dest := a.sr.cidr.getD ⟨[], 0, 0⟩, router := a.sr.router }) SetupView.route ?_ ?_ args []).trans ?_)
    · cases GenSetup.forEach GenSetup.staticroute4_loop1 [] args <;> rfl
    · intro acc x hx
      rcases staticroute_loop_spec acc x with ⟨_, he⟩ | ⟨c, _, _, hr⟩
      · exact he
      · rw [hx] at hr; cases hr
    · intro acc x b hx
      rcases staticroute_loop_spec acc x with ⟨hn, _⟩ | ⟨c, hc, hb, hr⟩
      · rw [hx] at hn; cases hn
      · rw [hx] at hr
        simp only [hc, Option.getD_some]
        exact ⟨hb, (Option.some.inj hr).symm⟩
    · cases allSome staticroute.route args <;> rfl

namespace SetupView
theorem forEach_check {α : Type} (body : Unit → α → Except GenSetup.Err Unit) (p : α → Bool)
    (h : ∀ x, (body () x).toBool = p x) : ∀ xs : List α, (GenSetup.forEach body () xs).toBool = xs.all p
  | [] => rfl
  | x :: xs => by
    have hx := h x
    rw [GenSetup.forEach, List.all_cons, ← hx]
    cases body () x with
    | error e => rfl
    | ok u => exact (forEach_check body p h xs).trans (Bool.true_and _).symm
end SetupView

theorem checkDomains_label (x : Bytes) :
    (GenSetup.searchdomains_checkDomains_loop2 () x).toBool = (decide (1 ≤ x.length) && decide (x.length ≤ 63)) := by
  unfold GenSetup.searchdomains_checkDomains_loop2
  by_cases h : x.length = 0 ∨ x.length > 63
  · rw [if_pos h]
    -- an empty label fails the first test, a long one the second
    refine (Bool.and_eq_false_iff.mpr (h.imp (fun h => decide_eq_false ?_) fun h => decide_eq_false ?_)).symm
    · omega
    · omega
  · rw [if_neg h]
    exact (Bool.and_eq_true_iff.mpr ⟨decide_eq_true (by omega), decide_eq_true (by omega)⟩).symm

theorem checkDomains_domain (x : Bytes) :
    (GenSetup.searchdomains_checkDomains_loop1 () x).toBool = domainOK x := by
  unfold GenSetup.searchdomains_checkDomains_loop1 domainOK
  have hl := SetupView.forEach_check GenSetup.searchdomains_checkDomains_loop2 _ checkDomains_label (splitOn 46 x)
  by_cases h : x.length > 253
  · rw [if_pos h, decide_eq_false (by omega), Bool.false_and]
    rfl
  · rw [if_neg h, decide_eq_true (by omega), Bool.true_and, ← hl]
    cases GenSetup.forEach GenSetup.searchdomains_checkDomains_loop2 () (splitOn 46 x) <;> rfl

theorem checkDomains_eq (names : List Bytes) :
    (GenSetup.searchdomains_checkDomains names).toBool = names.all domainOK := by
  unfold GenSetup.searchdomains_checkDomains
  rw [← SetupView.forEach_check GenSetup.searchdomains_checkDomains_loop1 _ checkDomains_domain names]
  cases GenSetup.forEach GenSetup.searchdomains_checkDomains_loop1 () names <;> rfl

theorem GEN_setup_searchdomains4_eq (args : List ArgOracle) :
    (GenSetup.searchdomains4 args).mapError (fun _ => ()) = Plug.search.setup args := by
  unfold GenSetup.searchdomains4 Plug.search.setup
  have h : (GenSetup.searchdomains_checkDomains (GenSetup.rawArgs args)).toBool = args.all (fun a => domainOK a.raw) :=
    (checkDomains_eq _).trans List.all_map
  cases hc : GenSetup.searchdomains_checkDomains (GenSetup.rawArgs args) with
  | error e =>
    have hf : (args.all fun a => domainOK a.raw) = false := (hc ▸ h).symm
    rw [hf, if_neg Bool.false_ne_true]; rfl
  | ok u =>
    have ht : (args.all fun a => domainOK a.raw) = true := (hc ▸ h).symm
    rw [if_pos ht]; rfl

theorem GEN_setup_searchdomains6_eq (args : List ArgOracle) :
    (GenSetup.searchdomains6 args).mapError (fun _ => ()) = Plug.search.setup args :=
  GEN_setup_searchdomains4_eq args

/-! ## not in the model: a second set-up in the same process

The model's `setup` is a function of the arguments alone.  The Go set-ups keep their configuration in
package-level variables, and five of them read a variable they have not (or not yet) written: the generated
`…From` definitions take that value as `init`.  With the zero value (`router4`, … above: the first set-up of a
process) they are the model; with anything else they are not: -/

/-- ipv6only (autoconfigure likewise): without argument the value of an earlier set-up stays, the model says 0 -/
theorem GEN_setup_ipv6only4_keeps (d : Int) : GenSetup.ipv6only4From d [] = .ok d := rfl

theorem GEN_setup_autoconfigure4_keeps (v : Nat) : GenSetup.autoconfigure4From v [] = .ok v := rfl

/-- nbp, DHCPv4: an http URL (https and ftp take the same branch of the generated text) leaves `opt66` as an earlier set-up
(a TFTP URL) made it -/
theorem GEN_setup_nbp4_keeps66 (p66 p67 : Option (Nat × Bytes)) (a : ArgOracle) (u : UrlOracle)
    (hu : a.url = some u) (hs : u.scheme = strBytes "http") :
    GenSetup.nbp4From p66 p67 [a] = .ok (p66, some (67, u.str)) := by
  unfold GenSetup.nbp4From
  rw [nbp_parseArgs_eq]
  simp only [single, hu, hs, true_or, if_true]

/-- nbp, DHCPv6: a URL without `params` leaves `opt60` as it was -/
theorem GEN_setup_nbp6_keeps60 (p59 p60 : Option (Nat × Bytes)) (a : ArgOracle) (u : UrlOracle)
    (hu : a.url = some u) (hp : u.params = []) :
    GenSetup.nbp6From p59 p60 [a] = .ok (some (59, u.str), p60) := by
  unfold GenSetup.nbp6From
  rw [nbp_parseArgs_eq]
  simp only [single, hu, hp, strBytes_empty, ne_eq, not_true_eq_false, if_false]

end CoreDhcp
