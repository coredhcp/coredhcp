/-
C12 — DHCPv6 replies match their request; relayed requests get a mirrored Relay-Reply.
-/
import CoreDhcp.Proofs.Chain
import CoreDhcp.Proofs.Dispatch
namespace CoreDhcp

/-- Whatever the parse result, the source address, the listener configuration and the chain of handlers
that leave type, transaction id, Client-ID and Rapid Commit of the response alone: anything `HandleMsg6`
sends answers a message of a type it supports that has a Client-ID, with the reply type of RFC 8415
(ADVERTISE, or REPLY with Rapid Commit, for a SOLICIT; REPLY otherwise), echoes transaction id and Client-ID,
mirrors every Relay-Forward layer, and is pinned to an interface iff the source is link-local. -/
theorem C12_holds (bound : Nat) (oob : Option Nat) (src : Addr) (hs : List Handler6) (input : Option Pkt6)
    (hpres : ∀ h ∈ hs, Handler6.Preserving h ∧ Handler6.NilPreserving h) :
    C12.holds bound oob src input (dispatch6 bound oob src hs input) = true := by
  refine dispatch6_elim (motive := fun out => C12.holds bound oob src input out = true) bound oob src hs input rfl ?_
  intro d m r0 resp hi hm h0 hc
  rcases deliver6_cases bound oob src d resp with ⟨hd, _⟩ | hd
  · rw [hd]; rfl
  · rw [hd, hi]
    refine C12_send bound oob src d m r0 resp hm h0 ?_
    exact runChain_some_invariant
      (fun x => x.mt = r0.mt ∧ x.xid = r0.xid ∧ x.cid = r0.cid ∧ x.rapid = r0.rapid) d hs
      (fun h hmem r r' hr ⟨a1, a2, a3, a4⟩ =>
        have ⟨b1, b2, b3, b4⟩ := (hpres h hmem).1 d r r' (h d (some r)).2 (Prod.ext hr rfl)
        ⟨b1.trans a1, b2.trans a2, b3.trans a3, b4.trans a4⟩)
      (fun h hmem => (hpres h hmem).2 d _ _ rfl) 0 r0 resp ⟨rfl, rfl, rfl, rfl⟩ hc

/-- any nesting depth n: exactly n Relay-Reply layers, each mirroring link-address, peer-address,
Interface-ID (and Remote-ID) of the corresponding Relay-Forward layer — for arbitrary handlers -/
theorem C12_mirror (bound : Nat) (oob : Option Nat) (src : Addr) (hs : List Handler6) (d : Pkt6)
    (layers : List Layer6) (resp : Resp6) (ifidx : Option Nat)
    (h : dispatch6 bound oob src hs (some d) = .send layers resp ifidx) :
    layers.length = d.layers.length ∧
    ∀ i (hi : i < layers.length) (hj : i < d.layers.length),
      layers[i].mt = 13 ∧ layers[i].link = d.layers[i].link ∧ layers[i].peer = d.layers[i].peer ∧
      layers[i].iid = d.layers[i].iid ∧ layers[i].rid = d.layers[i].rid := by
  obtain ⟨d', _, _, hi, _, _, _, hl, _⟩ := dispatch6_send bound oob src hs _ layers resp ifidx h
  cases hi
  subst hl
  refine ⟨mirror_length _, fun i hi hj => ?_⟩
  rw [mirror_getElem d.layers i hi]
  exact ⟨rfl, rfl, rfl, rfl, rfl⟩

end CoreDhcp
