/-
GEN, unit `config` (DESIGN.md §1.5b): config/config.go from `splitHostPort` to `Load` (after the file was read), as
regenerated from the source (Generated/Config.lean), against the hand-written model (Model/Config.lean) that C18 is
about.  `Gen10` is the namespace of this comparison, after the translator's unit gen10.go.

The generated side keeps what Go has and the model drops:
  * every error is told apart by its text (`GenCfg.Err`) and a `panic("BUG: …")` is an outcome of its own; the model
    has `none` for all of them.  `Gen10.Sim x m`: the outcome `x` is the model's `m`.  Every generated function that
    can fail is walked through once (`GEN_cfg_f_sim`); `GEN_cfg_f_eq` is a reading of it, and so is
    `GEN_cfg_f_no_panic` for the functions without a version argument; for those with one, `_no_panic` holds for ANY
    number: 6 and 4 by the walk, any other because it is refused at the door (`Gen10.bad_*`; the loop of `parseListen`
    in every round);
  * the protocol version is the number the code passes (`Gen10.ver`: 6 / 4), the model has `v6 : Bool`;
  * the generated functions start from what viper / cast / the standard library answer (`RawConfig`, `Env`);
    `Gen10.view` is the model's `SectionView` of a section:
      plugins  = cast.ToSlice(Get("serverN.plugins")) (none = nil), each item through cast.ToStringMap
                 (`Gen10.itemView`: nil map ↦ notMap, one entry ↦ one key (strings.Fields (cast.ToString value)),
                 otherwise ↦ keys n)
      iface    = cast.ToString(Get("serverN.interface")), none = nil
      listen   = cast.ToStringSliceE(Get("serverN.listen")), or [cast.ToString(…)] when that fails; none = nil
      alias    = strings.Fields("%" ++ cast.ToString(Get("serverN.interface")))
      oracles  = the recorded answers of net.SplitHostPort / net.ParseIP / strconv.Atoi
  * the loops append to an accumulator, the model conses on the way back.

`env.ifs = some ifs` in the `_eq` theorems: the model's interface list is a `List Iface`, it has no failing
`net.Interfaces()`.  The `_sim` theorems need no such hypothesis: with `env.ifs = none` the code returns "Could not
list network interfaces" exactly where the model, given no interface (`env.ifs.getD []`), finds none suitable.  Nor
do they need the section to be there (`Gen10.sectionOf`).  No consistency hypothesis on the oracles is needed: both
sides look the answers up with the same `findOracle`.
-/
import CoreDhcp.Generated.Config
import CoreDhcp.Proofs.Config
namespace CoreDhcp
open GenCfg (Out Err Env RawConfig RawSection ItemRaw Servers Flags)

/-- the protocol version the code passes for the model's `v6` -/
def Gen10.ver (v6 : Bool) : Nat := if v6 then 6 else 4

/-- which error it was is forgotten (and a panic, which `GEN_cfg_*_no_panic` exclude) -/
def Gen10.opt {α : Type} : Out α → Option α
  | .ok v => some v
  | _ => none

@[simp] theorem Gen10.opt_ok {α : Type} (v : α) : Gen10.opt (Out.ok v) = some v := rfl
@[simp] theorem Gen10.opt_error {α : Type} (e : Err) : Gen10.opt (Out.error e : Out α) = none := rfl
@[simp] theorem Gen10.opt_panic {α : Type} : Gen10.opt (Out.panic : Out α) = none := rfl

/-- the generated outcome is the model's: the same value, or some error where the model has `none`; never a
panic -/
def Gen10.Sim {α : Type} : Out α → Option α → Prop
  | .ok v, m => m = some v
  | .error _, m => m = none
  | .panic, _ => False

namespace Gen10
variable {α : Type}

theorem Sim.ok (v : α) : Sim (.ok v) (some v) := rfl
theorem Sim.error (e : Err) : Sim (.error e : Out α) none := rfl

theorem Sim.opt_eq {x : Out α} {m : Option α} (h : Sim x m) : opt x = m := by
  cases x with
  | ok v => exact h.symm
  | error e => exact h.symm
  | panic => exact False.elim h

theorem Sim.ne_panic {x : Out α} {m : Option α} (h : Sim x m) : x ≠ .panic := by
  intro hx
  subst hx
  exact h

/-- How a walk uses the `Sim` of a call: the call is a value on both sides, or an error on the one and `none` on
the other.  With `elab_as_elim` the motive is found by abstracting the two calls in the goal, so the generated
`match` (each generated definition has a matcher of its own) need not be written down. -/
@[elab_as_elim]
theorem Sim.elim {x : Out α} {m : Option α} {motive : Out α → Option α → Prop} (h : Sim x m)
    (ok : ∀ v, motive (.ok v) (some v)) (error : ∀ e, motive (.error e) none) : motive x m := by
  cases x with
  | ok v => cases h; exact ok v
  | error e => cases h; exact error e
  | panic => exact False.elim h

theorem Sim.of_nil_acc {β : Type} {x : Out (List β)} {m : Option (List β)} (h : Sim x (m.map ([] ++ ·))) :
    Sim x m := by
  simpa only [List.nil_append, Option.map_id'] using h

theorem Sim.ite {c c' : Prop} [Decidable c] [Decidable c'] {x y : Out α} {m n : Option α}
    (hc : c ↔ c') (hx : Sim x m) (hy : Sim y n) : Sim (if c then x else y) (if c' then m else n) := by
  by_cases h : c
  · rw [if_pos h, if_pos (hc.1 h)]; exact hx
  · rw [if_neg h, if_neg (mt hc.2 h)]; exact hy

theorem check_bad {n : Nat} (h6 : n ≠ 6) (h4 : n ≠ 4) : GenCfg.protoVersionCheck n = some .badVersion :=
  if_pos ⟨h6, h4⟩

section
variable {n : Nat} (h6 : n ≠ 6) (h4 : n ≠ 4)
include h6 h4

theorem bad_getListenAddress (o : AddrOracle) : GenCfg.getListenAddress n o = .error .badVersion := by
  unfold GenCfg.getListenAddress; rw [check_bad h6 h4]

theorem bad_parseListen (env : Env) (cfg : RawConfig) : GenCfg.parseListen n env cfg = .error .badVersion := by
  unfold GenCfg.parseListen; rw [check_bad h6 h4]

theorem bad_getPlugins (env : Env) (cfg : RawConfig) : GenCfg.getPlugins n env cfg = .error .badVersion := by
  unfold GenCfg.getPlugins; rw [check_bad h6 h4]

theorem bad_parseConfig (env : Env) (cfg : RawConfig) (st : Servers) :
    GenCfg.parseConfig n env cfg st = .error .badVersion := by
  unfold GenCfg.parseConfig; rw [check_bad h6 h4]

/-- the loop of `parseListen` has no check of its own: each round is refused, by the look-up or by `getListenAddress` -/
theorem bad_listenBody (env : Env) (cfg : RawConfig) (acc : List UDPAddr) (a : String) :
    ∃ e, GenCfg.listenBody n env cfg acc a = .error e := by
  unfold GenCfg.listenBody GenCfg.withOracle
  cases findOracle env.oracles a with
  | none => exact ⟨_, rfl⟩
  | some o =>
    dsimp only
    rw [bad_getListenAddress h6 h4]
    exact ⟨_, rfl⟩

/-- `defaultListen` has no check at the door: its `switch` ends in an error of its own -/
theorem bad_defaultListen (env : Env) : GenCfg.defaultListen n env = .error .defaultVersion := by
  unfold GenCfg.defaultListen; rw [if_neg h4, if_neg h6]

end

theorem check_ok (v6 : Bool) : GenCfg.protoVersionCheck (ver v6) = none := by
  cases v6 <;> rfl

theorem ver_cases (n : Nat) : (∃ v6, n = ver v6) ∨ (n ≠ 6 ∧ n ≠ 4) := by
  by_cases h6 : n = 6
  · exact .inl ⟨true, h6⟩
  · by_cases h4 : n = 4
    · exact .inl ⟨false, h4⟩
    · exact .inr ⟨h6, h4⟩

end Gen10

theorem GEN_cfg_splitHostPort_eq (o : AddrOracle) : GenCfg.splitHostPort o = splitHostPort o := by
  unfold GenCfg.splitHostPort splitHostPort
  cases o.shp with
  | none =>
    cases o.shp0 with
    | none => rfl
    | some h =>
      dsimp only
      cases lastPercent h.toList <;> rfl
  | some hp =>
    obtain ⟨h, p⟩ := hp
    dsimp only
    cases lastPercent h.toList <;> rfl

open Gen10 in
/-- the part of the generated `getListenAddress` behind the choice of the IP (the translator copies it into each
of the three arms) -/
theorem Gen10.listenAddr_sim (v6 : Bool) (ip : IPKind) (zone port : String) (atoi : Option Int) :
    Sim (if ip = IPKind.none then .error .invalidIP
         else if ver v6 = 6 ∧ GenCfg.to4Nil ip = false ∨ ver v6 = 4 ∧ GenCfg.to4Nil ip = true then
           .error .wrongFamily
         else if port = "" then
           if ver v6 = 4 then .ok ⟨ip, 67, zone⟩ else if ver v6 = 6 then .ok ⟨ip, 547, zone⟩ else .panic
         else match atoi with
           | none => .error .invalidPort
           | some n => .ok ⟨ip, n, zone⟩)
      (listenAddr v6 ip zone port atoi) := by
  have hw : (ver v6 = 6 ∧ GenCfg.to4Nil ip = false ∨ ver v6 = 4 ∧ GenCfg.to4Nil ip = true) ↔
      wrongFamily v6 ip = true := by
    cases v6 <;> cases ip <;> simp [ver, GenCfg.to4Nil, wrongFamily]
  refine Sim.ite Iff.rfl (Sim.error _) (Sim.ite hw (Sim.error _)
    (Sim.ite beq_iff_eq.symm ?_ ?_))
  · cases v6 <;> exact Sim.ok _
  · cases atoi
    · exact Sim.error _
    · exact Sim.ok _

open Gen10 in
theorem GEN_cfg_getListenAddress_sim (v6 : Bool) (o : AddrOracle) :
    Sim (GenCfg.getListenAddress (ver v6) o) (getListenAddress v6 o) := by
  rw [getListenAddress_eq_bind]
  unfold GenCfg.getListenAddress
  rw [check_ok, GEN_cfg_splitHostPort_eq]
  cases splitHostPort o with
  | none => exact Sim.error _
  | some t =>
    obtain ⟨ipStr, zone, port⟩ := t
    rw [Option.bind_some, apply_ite (listenAddr v6 · zone port o.atoi)]
    refine Sim.ite beq_iff_eq.symm ?_ (listenAddr_sim v6 _ _ _ _)
    cases v6
    · rw [if_pos (show ver false = 4 from rfl)]
      exact listenAddr_sim false _ _ _ _
    · rw [if_neg (show ¬ver true = 4 by decide), if_pos (show ver true = 6 from rfl)]
      exact listenAddr_sim true _ _ _ _

theorem GEN_cfg_getListenAddress_eq (v6 : Bool) (o : AddrOracle) :
    Gen10.opt (GenCfg.getListenAddress (Gen10.ver v6) o) = getListenAddress v6 o :=
  (GEN_cfg_getListenAddress_sim v6 o).opt_eq

theorem GEN_cfg_getListenAddress_no_panic (ver : Nat) (o : AddrOracle) :
    GenCfg.getListenAddress ver o ≠ .panic := by
  obtain ⟨v6, rfl⟩ | ⟨h6, h4⟩ := Gen10.ver_cases ver
  · exact (GEN_cfg_getListenAddress_sim v6 o).ne_panic
  · rw [Gen10.bad_getListenAddress h6 h4]; nofun

theorem Gen10.expandLoop_eq (env : Env) (fl : Flags) (a : UDPAddr) (acc : List UDPAddr) (ifs : List Iface) :
    GenCfg.expandLoop env fl a acc ifs =
      .ok (acc ++ (ifs.filter (fun i => Flags.and i.flags fl = fl)).map (fun i => { a with zone := i.name })) := by
  induction ifs generalizing acc with
  | nil => simp [GenCfg.expandLoop]
  | cons i rest ih =>
    unfold GenCfg.expandLoop GenCfg.expandBody
    by_cases h : Flags.and i.flags fl = fl <;> simp [h, ih]

open Gen10 in
/-- the part of the generated `expandLLMulticast` behind the choice of the flags (copied into both arms): with
broadcast required (`b`) or not.  A failing `net.Interfaces()` is an error where the model, given no interface,
finds none suitable -/
theorem Gen10.expandIfs_sim (env : Env) (b : Bool) (a : UDPAddr) :
    Sim (match env.ifs with
         | none => .error .ifaceList
         | some ifs1 =>
           match GenCfg.expandLoop env ⟨true, b⟩ a [] ifs1 with
           | .error e1 => .error e1
           | .ok l1 => if l1.length = 0 then .error .noIface else .ok l1
           | .panic => .panic)
      (if ((env.ifs.getD []).filter fun i => i.multi && (!b || i.bcast)).isEmpty then none
       else some (((env.ifs.getD []).filter fun i => i.multi && (!b || i.bcast)).map
         fun i => { a with zone := i.name })) := by
  have hf : (fun i : Iface => decide (Flags.and i.flags ⟨true, b⟩ = ⟨true, b⟩)) =
      fun i => i.multi && (!b || i.bcast) := by
    funext i; cases b <;> simp [Flags.and, Iface.flags]
  cases env.ifs with
  | none => exact Sim.error _
  | some ifs =>
    simp only [expandLoop_eq, List.nil_append, hf, Option.getD_some, List.length_map, List.isEmpty_iff_length_eq_zero]
    exact Sim.ite Iff.rfl (Sim.error _) (Sim.ok _)

open Gen10 in
theorem GEN_cfg_expand_sim (env : Env) (a : UDPAddr) :
    Sim (GenCfg.expandLLMulticast env a) (expandLLMulticast (env.ifs.getD []) a) := by
  obtain ⟨ip, port, zone⟩ := a
  unfold GenCfg.expandLLMulticast expandLLMulticast
  refine Sim.ite (by simp) (Sim.error _) (Sim.ite bne_iff_ne.symm (Sim.error _) ?_)
  cases ip
  · exact expandIfs_sim env false _
  · exact expandIfs_sim env true _
  · exact expandIfs_sim env false _

theorem GEN_cfg_expand_eq (env : Env) (ifs : List Iface) (h : env.ifs = some ifs) (a : UDPAddr) :
    Gen10.opt (GenCfg.expandLLMulticast env a) = expandLLMulticast ifs a := by
  rw [(GEN_cfg_expand_sim env a).opt_eq, h, Option.getD_some]

theorem GEN_cfg_expand_no_panic (env : Env) (a : UDPAddr) : GenCfg.expandLLMulticast env a ≠ .panic :=
  (GEN_cfg_expand_sim env a).ne_panic

section
open Gen10

theorem GEN_cfg_defaultListen_sim (v6 : Bool) (env : Env) :
    Sim (GenCfg.defaultListen (ver v6) env) (defaultListen v6 (env.ifs.getD [])) := by
  unfold GenCfg.defaultListen defaultListen
  cases v6
  · exact Sim.ok _
  · rw [if_neg (show ¬ver true = 4 by decide), if_pos (show ver true = 6 from rfl), if_neg (by decide)]
    unfold allRelayAgentsAndServers allServers
    exact (GEN_cfg_expand_sim env ⟨.v6 ⟨0xff02000000000000#64, 0x0000000000010002#64⟩, 547, ""⟩).elim
      (fun _ => Sim.ok _) (fun _ => Sim.error _)

theorem GEN_cfg_defaultListen_eq (v6 : Bool) (env : Env) (ifs : List Iface) (h : env.ifs = some ifs) :
    Gen10.opt (GenCfg.defaultListen (Gen10.ver v6) env) = defaultListen v6 ifs := by
  rw [(GEN_cfg_defaultListen_sim v6 env).opt_eq, h, Option.getD_some]

theorem GEN_cfg_defaultListen_no_panic (ver : Nat) (env : Env) : GenCfg.defaultListen ver env ≠ .panic := by
  obtain ⟨v6, rfl⟩ | ⟨h6, h4⟩ := Gen10.ver_cases ver
  · exact (GEN_cfg_defaultListen_sim v6 env).ne_panic
  · rw [Gen10.bad_defaultListen h6 h4]; nofun

theorem Gen10.listenBody_sim (v6 : Bool) (env : Env) (cfg : RawConfig) (acc : List UDPAddr) (a : String) :
    Sim (GenCfg.listenBody (ver v6) env cfg acc a)
      ((listenOne v6 (env.ifs.getD []) env.oracles a).map (acc ++ ·)) := by
  unfold GenCfg.listenBody GenCfg.withOracle listenOne
  cases findOracle env.oracles a with
  | none => exact Sim.error _
  | some o =>
    dsimp only [Option.bind_some]
    refine (GEN_cfg_getListenAddress_sim v6 o).elim (fun l => ?_) (fun _ => Sim.error _)
    rw [Option.bind_some, apply_ite (Option.map _)]
    refine Sim.ite (by simp) ?_ (Sim.ok _)
    exact (GEN_cfg_expand_sim env l).elim (fun _ => Sim.ok _) (fun _ => Sim.error _)

/-- how the accumulator of a generated loop passes one round of the model's loop (`listenLoop_cons`, `parsePlugins`) -/
theorem Gen10.bind_map_append {β : Type} (acc : List β) (o : Option (List β)) (l : Option (List β)) :
    (o.bind fun x => l.map (x ++ ·)).map (acc ++ ·) = (o.map (acc ++ ·)).bind fun y => l.map (y ++ ·) := by
  cases o <;> cases l <;> simp

theorem GEN_cfg_listenLoop_sim (v6 : Bool) (env : Env) (cfg : RawConfig) (acc : List UDPAddr) (l : List String) :
    Sim (GenCfg.listenLoop (ver v6) env cfg acc l)
      ((listenLoop v6 (env.ifs.getD []) env.oracles l).map (acc ++ ·)) := by
  induction l generalizing acc with
  | nil =>
    rw [GenCfg.listenLoop, listenLoop, Option.map_some, List.append_nil]
    exact Sim.ok _
  | cons a rest ih =>
    rw [GenCfg.listenLoop, listenLoop_cons, bind_map_append]
    exact (listenBody_sim v6 env cfg acc a).elim (fun acc' => ih acc') (fun _ => Sim.error _)

theorem GEN_cfg_listenLoop_sim_nil (v6 : Bool) (env : Env) (cfg : RawConfig) (l : List String) :
    Sim (GenCfg.listenLoop (ver v6) env cfg [] l) (listenLoop v6 (env.ifs.getD []) env.oracles l) :=
  (GEN_cfg_listenLoop_sim v6 env cfg [] l).of_nil_acc

theorem GEN_cfg_listenLoop_acc (v6 : Bool) (env : Env) (cfg : RawConfig) (ifs : List Iface) (h : env.ifs = some ifs)
    (acc : List UDPAddr) (l : List String) :
    Gen10.opt (GenCfg.listenLoop (Gen10.ver v6) env cfg acc l) = (listenLoop v6 ifs env.oracles l).map (acc ++ ·) := by
  rw [(GEN_cfg_listenLoop_sim v6 env cfg acc l).opt_eq, h, Option.getD_some]

theorem GEN_cfg_listenLoop_eq (v6 : Bool) (env : Env) (cfg : RawConfig) (ifs : List Iface) (h : env.ifs = some ifs)
    (l : List String) :
    Gen10.opt (GenCfg.listenLoop (Gen10.ver v6) env cfg [] l) = listenLoop v6 ifs env.oracles l := by
  rw [(GEN_cfg_listenLoop_sim_nil v6 env cfg l).opt_eq, h, Option.getD_some]

theorem GEN_cfg_listenLoop_no_panic (ver : Nat) (env : Env) (cfg : RawConfig) (acc : List UDPAddr) (l : List String) :
    GenCfg.listenLoop ver env cfg acc l ≠ .panic := by
  obtain ⟨v6, rfl⟩ | ⟨h6, h4⟩ := Gen10.ver_cases ver
  · exact (GEN_cfg_listenLoop_sim v6 env cfg acc l).ne_panic
  · cases l with
    | nil => rw [GenCfg.listenLoop]; nofun
    | cons a rest =>
      obtain ⟨e, he⟩ := Gen10.bad_listenBody h6 h4 env cfg acc a
      rw [GenCfg.listenLoop, he]
      nofun

def Gen10.itemView (env : Env) : ItemRaw → ItemView
  | none => .notMap
  | some [(k, v)] => .one k (env.fieldsOf v)
  | some l => .keys l.length

def Gen10.view (env : Env) (sec : RawSection) : SectionView where
  plugins := sec.plugins.map (·.map (Gen10.itemView env))
  iface := sec.iface.map (·.str)
  listen := sec.listen.map (fun c => match c.sliceE with | some l => l | none => [c.str])
  alias := match sec.iface with | some c => env.fieldsOf ("%" ++ c.str) | none => []
  oracles := env.oracles

/-- the keys of the protocol's section as the code reads them: "a key below a section that is not there is nil",
so an absent section reads like one without keys -/
def Gen10.sectionOf (cfg : RawConfig) (v6 : Bool) : RawSection :=
  ⟨cfg.plugins (ver v6), cfg.iface (ver v6), cfg.listen (ver v6)⟩

theorem Gen10.sectionOf_some {cfg : RawConfig} {v6 : Bool} {sec : RawSection}
    (hs : cfg.section (ver v6) = some sec) : sectionOf cfg v6 = sec := by
  simp only [sectionOf, GenCfg.RawConfig.plugins, GenCfg.RawConfig.iface, GenCfg.RawConfig.listen, hs, Option.bind_some]

theorem GEN_cfg_parseListen_sim (v6 : Bool) (env : Env) (cfg : RawConfig) :
    Sim (GenCfg.parseListen (ver v6) env cfg)
      (parseListen v6 (env.ifs.getD []) (view env (sectionOf cfg v6))) := by
  have loop : ∀ l, Sim (match GenCfg.listenLoop (ver v6) env cfg [] l with
      | .error e2 => .error e2 | .ok l1 => .ok l1 | .panic => .panic)
      (listenLoop v6 (env.ifs.getD []) env.oracles l) :=
    fun l => (GEN_cfg_listenLoop_sim_nil v6 env cfg l).elim (fun _ => Sim.ok _) (fun _ => Sim.error _)
  unfold GenCfg.parseListen parseListen view sectionOf
  rw [check_ok]
  dsimp only
  match cfg.iface (ver v6), cfg.listen (ver v6) with
  | none, none => exact GEN_cfg_defaultListen_sim v6 env
  | none, some c =>
    rw [if_neg (fun h => Bool.false_ne_true h.1)]
    dsimp only [Option.map_some, Option.map_none]
    cases c.sliceE <;> exact loop _
  | some c, none =>
    rw [if_neg (fun h => Bool.false_ne_true h.2)]
    exact loop _
  | some _, some _ => rw [if_pos ⟨rfl, rfl⟩]; exact Sim.error _

theorem GEN_cfg_parseListen_eq (v6 : Bool) (env : Env) (cfg : RawConfig) (ifs : List Iface) (h : env.ifs = some ifs)
    (sec : RawSection) (hs : cfg.section (Gen10.ver v6) = some sec) :
    Gen10.opt (GenCfg.parseListen (Gen10.ver v6) env cfg) = parseListen v6 ifs (Gen10.view env sec) := by
  rw [(GEN_cfg_parseListen_sim v6 env cfg).opt_eq, h, Option.getD_some, sectionOf_some hs]

theorem GEN_cfg_parseListen_no_panic (ver : Nat) (env : Env) (cfg : RawConfig) :
    GenCfg.parseListen ver env cfg ≠ .panic := by
  obtain ⟨v6, rfl⟩ | ⟨h6, h4⟩ := Gen10.ver_cases ver
  · exact (GEN_cfg_parseListen_sim v6 env cfg).ne_panic
  · rw [Gen10.bad_parseListen h6 h4]; nofun

theorem GEN_cfg_pluginsLoop_sim (env : Env) (acc : List (String × List String)) (items : List ItemRaw) :
    Sim (GenCfg.pluginsLoop env acc items) ((parsePlugins (items.map (itemView env))).map (acc ++ ·)) := by
  induction items generalizing acc with
  | nil =>
    rw [GenCfg.pluginsLoop, List.map_nil, parsePlugins, Option.map_some, List.append_nil]
    exact Sim.ok _
  | cons x rest ih =>
    rw [GenCfg.pluginsLoop, List.map_cons]
    unfold GenCfg.pluginsBody
    -- nil map, no key, one key, several keys
    rcases x with _ | _ | ⟨⟨k, v⟩, _ | _⟩
    · exact Sim.error _
    · exact Sim.error _
    · show Sim _ (((some [(k, env.fieldsOf v)]).bind fun x =>
        (parsePlugins (rest.map (itemView env))).map (x ++ ·)).map (acc ++ ·))
      rw [bind_map_append]
      exact ih _
    · exact Sim.error _

theorem GEN_cfg_pluginsLoop_acc (env : Env) (acc : List (String × List String)) (items : List ItemRaw) :
    Gen10.opt (GenCfg.pluginsLoop env acc items) =
      (parsePlugins (items.map (Gen10.itemView env))).map (acc ++ ·) :=
  (GEN_cfg_pluginsLoop_sim env acc items).opt_eq

theorem GEN_cfg_pluginsLoop_no_panic (env : Env) (acc : List (String × List String)) (items : List ItemRaw) :
    GenCfg.pluginsLoop env acc items ≠ .panic :=
  (GEN_cfg_pluginsLoop_sim env acc items).ne_panic

theorem GEN_cfg_parsePlugins_sim (env : Env) (items : List ItemRaw) :
    Sim (GenCfg.parsePlugins env items) (parsePlugins (items.map (itemView env))) := by
  unfold GenCfg.parsePlugins
  exact (GEN_cfg_pluginsLoop_sim env [] items).of_nil_acc.elim (fun _ => Sim.ok _) (fun _ => Sim.error _)

theorem GEN_cfg_parsePlugins_eq (env : Env) (items : List ItemRaw) :
    Gen10.opt (GenCfg.parsePlugins env items) = parsePlugins (items.map (Gen10.itemView env)) :=
  (GEN_cfg_parsePlugins_sim env items).opt_eq

theorem GEN_cfg_parsePlugins_no_panic (env : Env) (items : List ItemRaw) : GenCfg.parsePlugins env items ≠ .panic :=
  (GEN_cfg_parsePlugins_sim env items).ne_panic

theorem GEN_cfg_getPlugins_sim (v6 : Bool) (env : Env) (cfg : RawConfig) :
    Sim (GenCfg.getPlugins (ver v6) env cfg) ((view env (sectionOf cfg v6)).plugins.bind parsePlugins) := by
  unfold GenCfg.getPlugins view sectionOf
  rw [check_ok]
  dsimp only
  cases cfg.plugins (ver v6) with
  | none => exact Sim.error _
  | some items => exact GEN_cfg_parsePlugins_sim env items

theorem GEN_cfg_getPlugins_eq (v6 : Bool) (env : Env) (cfg : RawConfig) (sec : RawSection)
    (hs : cfg.section (Gen10.ver v6) = some sec) :
    Gen10.opt (GenCfg.getPlugins (Gen10.ver v6) env cfg) =
      (sec.plugins.map (·.map (Gen10.itemView env))).bind parsePlugins := by
  rw [(GEN_cfg_getPlugins_sim v6 env cfg).opt_eq, sectionOf_some hs]; rfl

theorem GEN_cfg_getPlugins_no_panic (ver : Nat) (env : Env) (cfg : RawConfig) :
    GenCfg.getPlugins ver env cfg ≠ .panic := by
  obtain ⟨v6, rfl⟩ | ⟨h6, h4⟩ := Gen10.ver_cases ver
  · exact (GEN_cfg_getPlugins_sim v6 env cfg).ne_panic
  · rw [Gen10.bad_getPlugins h6 h4]; nofun

/-- where `parseConfig(ver)` stores the section it parsed -/
def Gen10.store (v6 : Bool) (st : Servers) (sc : ServerConfig) : Servers :=
  if v6 then { st with s6 := some sc } else { st with s4 := some sc }

/-- `parseConfig(ver)` as the model would write it -/
def Gen10.parseInto (v6 : Bool) (ifs : List Iface) (s : Option SectionView) (st : Servers) : Option Servers :=
  match s with
  | none => some st
  | some sec => (parseSection v6 ifs sec).map (store v6 st)

theorem GEN_cfg_parseConfig_sim (v6 : Bool) (env : Env) (cfg : RawConfig) (st : Servers) :
    Sim (GenCfg.parseConfig (ver v6) env cfg st)
      (parseInto v6 (env.ifs.getD []) ((cfg.section (ver v6)).map (view env)) st) := by
  unfold GenCfg.parseConfig parseInto
  rw [check_ok]
  have hg := GEN_cfg_getPlugins_sim v6 env cfg
  have hl := GEN_cfg_parseListen_sim v6 env cfg
  cases hs : cfg.section (ver v6) with
  | none => exact Sim.ok _
  | some sec =>
    rw [sectionOf_some hs] at hg hl
    rw [Option.map_some]
    dsimp only
    rw [parseSection_eq_bind]
    refine hg.elim (fun ps => ?_) (fun _ => Sim.error _)
    refine hl.elim (fun ls => ?_) (fun _ => Sim.error _)
    cases v6 <;> exact Sim.ok _

/-- `parseConfig` when the section is there: the model's `parseSection`, stored into `c.Server6` / `c.Server4` -/
theorem GEN_cfg_parseSection_eq (v6 : Bool) (env : Env) (cfg : RawConfig) (ifs : List Iface) (h : env.ifs = some ifs)
    (sec : RawSection) (hs : cfg.section (Gen10.ver v6) = some sec) (st : Servers) :
    Gen10.opt (GenCfg.parseConfig (Gen10.ver v6) env cfg st) =
      (parseSection v6 ifs (Gen10.view env sec)).map (Gen10.store v6 st) := by
  rw [(GEN_cfg_parseConfig_sim v6 env cfg st).opt_eq, h, hs]; rfl

/-- `parseConfig` when the section is missing: not an error, nothing changes -/
theorem GEN_cfg_parseSection_absent (v6 : Bool) (env : Env) (cfg : RawConfig)
    (hs : cfg.section (Gen10.ver v6) = none) (st : Servers) :
    GenCfg.parseConfig (Gen10.ver v6) env cfg st = .ok st := by
  unfold GenCfg.parseConfig
  simp only [Gen10.check_ok, hs]

theorem GEN_cfg_parseConfig_no_panic (ver : Nat) (env : Env) (cfg : RawConfig) (st : Servers) :
    GenCfg.parseConfig ver env cfg st ≠ .panic := by
  obtain ⟨v6, rfl⟩ | ⟨h6, h4⟩ := Gen10.ver_cases ver
  · exact (GEN_cfg_parseConfig_sim v6 env cfg st).ne_panic
  · rw [Gen10.bad_parseConfig h6 h4]; nofun

theorem Gen10.loadConfig_eq (ifs : List Iface) (s6 s4 : Option SectionView) :
    (loadConfig ifs s6 s4).map (fun p => (⟨p.1, p.2⟩ : Servers)) =
      (parseInto true ifs s6 ⟨none, none⟩).bind fun st =>
        (parseInto false ifs s4 st).bind fun st' =>
          if st'.s6.isNone = true ∧ st'.s4.isNone = true then none else some st' := by
  unfold loadConfig parseInto store
  cases s6 with
  | none =>
    cases s4 with
    | none => rfl
    | some t4 =>
      dsimp only
      cases parseSection false ifs t4 <;> rfl
  | some t6 =>
    dsimp only
    cases parseSection true ifs t6 with
    | none => rfl
    | some c6 =>
      cases s4 with
      | none => rfl
      | some t4 =>
        dsimp only
        cases parseSection false ifs t4 <;> rfl

theorem GEN_cfg_load_sim (env : Env) (cfg : RawConfig) :
    Sim (GenCfg.load env cfg)
      ((loadConfig (env.ifs.getD []) (cfg.s6.map (view env)) (cfg.s4.map (view env))).map
        (fun p => (⟨p.1, p.2⟩ : Servers))) := by
  have h6 := GEN_cfg_parseConfig_sim true env cfg ⟨none, none⟩
  have h4 := GEN_cfg_parseConfig_sim false env cfg
  rw [show cfg.section (ver true) = cfg.s6 from rfl, show ver true = 6 from rfl] at h6
  rw [show cfg.section (ver false) = cfg.s4 from rfl, show ver false = 4 from rfl] at h4
  rw [loadConfig_eq]
  unfold GenCfg.load
  dsimp only
  refine h6.elim (fun st2 => ?_) (fun _ => Sim.error _)
  dsimp only [Option.bind_some]
  exact (h4 st2).elim (fun _ => Sim.ite Iff.rfl (Sim.error _) (Sim.ok _)) (fun _ => Sim.error _)

/-- `Load` after the file was read is the model's `loadConfig` on the views of the two sections -/
theorem GEN_cfg_load_eq (env : Env) (cfg : RawConfig) (ifs : List Iface) (h : env.ifs = some ifs) :
    (Gen10.opt (GenCfg.load env cfg)).map (fun st => (st.s6, st.s4)) =
      loadConfig ifs (cfg.s6.map (Gen10.view env)) (cfg.s4.map (Gen10.view env)) := by
  rw [(GEN_cfg_load_sim env cfg).opt_eq, h, Option.getD_some, Option.map_map]
  exact Option.map_id'

theorem GEN_cfg_load_no_panic (env : Env) (cfg : RawConfig) : GenCfg.load env cfg ≠ .panic :=
  (GEN_cfg_load_sim env cfg).ne_panic

end

/-- a protocol version that is neither 6 nor 4 is an error (never a panic) in every function that takes one -/
theorem GEN_cfg_bad_version (ver : Nat) (h6 : ver ≠ 6) (h4 : ver ≠ 4) (env : Env) (cfg : RawConfig) (o : AddrOracle)
    (st : Servers) :
    GenCfg.getListenAddress ver o = .error .badVersion ∧ GenCfg.parseListen ver env cfg = .error .badVersion ∧
    GenCfg.getPlugins ver env cfg = .error .badVersion ∧ GenCfg.parseConfig ver env cfg st = .error .badVersion ∧
    GenCfg.defaultListen ver env = .error .defaultVersion :=
  ⟨Gen10.bad_getListenAddress h6 h4 o, Gen10.bad_parseListen h6 h4 env cfg, Gen10.bad_getPlugins h6 h4 env cfg,
    Gen10.bad_parseConfig h6 h4 env cfg st, Gen10.bad_defaultListen h6 h4 env⟩

/-- the order in `Load`: DHCPv6 is parsed first — when its section is rejected, that error is the one `Load`
returns, whatever the DHCPv4 section is.  (`GEN_cfg_load_eq` cannot see the order: the model has one `none` for
every error.) -/
theorem GEN_cfg_load_v6_first (env : Env) (cfg : RawConfig) (e : Err)
    (h : GenCfg.parseConfig 6 env cfg ⟨none, none⟩ = .error e) : GenCfg.load env cfg = .error e := by
  unfold GenCfg.load
  simp only [h]

/-- the order in `parseConfig`: the plugin list is read before the listen addresses — its error wins -/
theorem GEN_cfg_parseConfig_plugins_first (v6 : Bool) (env : Env) (cfg : RawConfig) (sec : RawSection) (st : Servers)
    (e : Err) (hs : cfg.section (Gen10.ver v6) = some sec) (h : GenCfg.getPlugins (Gen10.ver v6) env cfg = .error e) :
    GenCfg.parseConfig (Gen10.ver v6) env cfg st = .error e := by
  unfold GenCfg.parseConfig
  simp only [Gen10.check_ok, hs, h]

def Gen10.exOracle : AddrOracle := ⟨"[fe80::1%lo]:5470", some ("fe80::1%lo", "5470"), none,
  [("fe80::1", .v6 ⟨0xfe80000000000000#64, 1#64⟩)], some 5470⟩
def Gen10.exEnv : Env :=
  ⟨some [], [Gen10.exOracle], fun s => if s = "LL 00:de:ad:be:ef:00" then ["LL", "00:de:ad:be:ef:00"] else [s]⟩
def Gen10.exSection : RawSection := ⟨some [some [("server_id", "LL 00:de:ad:be:ef:00")]], none,
  some ⟨"[fe80::1%lo]:5470", some ["[fe80::1%lo]:5470"]⟩⟩

/-- non-vacuity: `listen: "[fe80::1%lo]:5470"` and `plugins: [{server_id: "LL 00:de:ad:be:ef:00"}]` for DHCPv6 -/
example :
    (Gen10.opt (GenCfg.load Gen10.exEnv ⟨some Gen10.exSection, none⟩)).map (fun st => st.s6.map (·.addrs)) =
      some (some [⟨.v6 ⟨0xfe80000000000000#64, 1#64⟩, 5470, "lo"⟩]) ∧
    (Gen10.opt (GenCfg.load Gen10.exEnv ⟨some Gen10.exSection, none⟩)).map (fun st => st.s6.map (·.plugins)) =
      some (some [("server_id", ["LL", "00:de:ad:be:ef:00"])]) ∧
    (Gen10.opt (GenCfg.load Gen10.exEnv ⟨some Gen10.exSection, none⟩)).map (fun st => st.s4.isNone) = some true := by
  decide +kernel

end CoreDhcp
