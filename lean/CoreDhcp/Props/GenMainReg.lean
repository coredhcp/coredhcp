/-
Unit `mainreg`: Generated/MainReg.lean (written on every run by `harness gen -unit mainreg` from the go/ast of
/repo/cmds/coredhcp/main.go, /repo/plugins/plugin.go `RegisterPlugin`, and the `var Plugin = plugins.Plugin{…}`
declaration of every plugin package that `desiredPlugins` names) against the hand-written Model/MainReg.lean.

The generated definitions are the model's (GEN_mainreg_*).  On the model, for ANY log levels, plugin list and initial
registry: the order of effects in `main`, read off what the occurrence of a step in its trace tells (`MainReg.step_mem`,
MAINREG_config_before_sockets).  At the generated plugin list: the registry main's loop builds is
the list itself (`MainReg.registerAll_append`, `MainReg.registerAll_desired`); what `plugins.LoadPlugins` sees of it;
which plugin supports which protocol.

The MAINREG_* theorems about that registry take `(reg) (h : registerAll registry0 desired = .ok reg)`: the hypothesis
has the one solution `Reg.of desired` (`MainReg.reg_eq`) and is there so that they apply to whatever registry a caller
holds under that equation (Props/Server.lean: `Server.theReg`), without the caller having to know its value.
-/
import CoreDhcp.Generated.MainReg
import CoreDhcp.Model.OptPlug
import CoreDhcp.Props.C13
namespace CoreDhcp
open MainReg

theorem GEN_mainreg_register_eq (plugin : Option PluginDecl) (reg : Reg) :
    GenMainReg.register plugin reg = MainReg.register plugin reg := by
  unfold GenMainReg.register MainReg.register
  cases plugin with
  | none => rfl
  | some p =>
    -- a `match` on the look-up against an `if` on its `isSome`
    dsimp only
    cases Reg.get reg p.name with
    | none => rfl
    | some v => rfl

theorem GEN_mainreg_printLoop_eq (t : Trace) (ps : List PluginDecl) :
    GenMainReg.printLoop t ps = t ++ ps.map (fun p => Step.print p.name) := by
  induction ps generalizing t with
  | nil => exact (List.append_nil t).symm
  | cons p rest ih => exact (ih _).trans (List.append_assoc ..)

theorem GEN_mainreg_regLoop_eq (reg : Reg) (t : Trace) (ps : List PluginDecl) :
    GenMainReg.regLoop reg t ps =
      match MainReg.regRun reg ps with
      | (steps, some reg') => .next reg' (t ++ steps)
      | (steps, none) => .stop (t ++ steps) := by
  induction ps generalizing reg t with
  | nil => exact congrArg (GenMainReg.LoopOut.next reg) (List.append_nil t).symm
  | cons p rest ih =>
    rw [GenMainReg.regLoop, GenMainReg.regBody, GEN_mainreg_register_eq, MainReg.regRun]
    cases MainReg.register (some p) reg with
    | error => rfl
    | panic => rfl
    | ok reg' =>
      -- the generated loop appends each step to the trace, the model conses it on the steps to come
      dsimp only
      rw [ih]
      cases MainReg.regRun reg' rest with
      | mk steps r =>
        cases r with
        | none => exact congrArg GenMainReg.LoopOut.stop (List.append_assoc ..)
        | some r => exact congrArg (GenMainReg.LoopOut.next r) (List.append_assoc ..)

/-- `var RegisteredPlugins = make(map[string]*Plugin)` -/
theorem GEN_mainreg_registry0 : GenMainReg.registry0 = [] := rfl

/-- the generated text appends under an `if`, the model appends an `if` -/
theorem MainReg.ite_append {α : Type} (c : Prop) [Decidable c] (t u : List α) :
    (if c then t ++ u else t) = t ++ if c then u else [] := by
  split
  · rfl
  · exact (List.append_nil t).symm

theorem GEN_mainreg_main_eq (f : Flags) (w : World) :
    GenMainReg.main f w = MainReg.main GenMainReg.logLevelNames GenMainReg.desired GenMainReg.registry0 f w := by
  unfold GenMainReg.main MainReg.main
  simp only [MainReg.ite_append, GEN_mainreg_printLoop_eq, GEN_mainreg_regLoop_eq]
  -- the tests are the same and in the same order; the texts differ in a `Bool` matched against an `if … = false` /
  -- `if … = true`, in the two results of the registration loop, and in `++ [.wait] ++ [.ret]` against `++ [.wait, .ret]`
  cases f.plugins with
  | true => rfl
  | false =>
    cases GenMainReg.logLevelNames.contains f.loglevel with
    | false => rfl
    | true =>
      cases w.load f.conf with
      | none => rfl
      | some c =>
        cases MainReg.regRun GenMainReg.registry0 GenMainReg.desired with
        | mk steps r =>
          cases r with
          | none => rfl
          | some r =>
            dsimp only
            cases w.start c with
            | false => rfl
            | true => exact List.append_assoc ..

/-- The flags as declared today: `-l` = `--logfile`, `-N` = `--nostdout`, `-L` = `--loglevel` (default "info"),
`-c` = `--conf` (the value `main` gives to `config.Load`, default ""), `-P` = `--plugins` (default false). -/
theorem MAINREG_flag_table :
    GenMainReg.flagDecls = [⟨"logfile", "l", .str ""⟩, ⟨"nostdout", "N", .bool false⟩, ⟨"loglevel", "L", .str "info"⟩,
      ⟨"conf", "c", .str ""⟩, ⟨"plugins", "P", .bool false⟩] := rfl

/-- The log levels `main` accepts, as `logLevels` has them today; any other value of --loglevel is fatal. -/
theorem MAINREG_log_levels :
    GenMainReg.logLevelNames = ["none", "debug", "info", "warning", "error", "fatal"] := rfl

theorem MainReg.get_set (reg : Reg) (k : String) (v : PluginDecl) (k' : String) :
    Reg.get (Reg.set reg k v) k' = if k = k' then some v else Reg.get reg k' := by
  induction reg with
  | nil => rfl
  | cons e rest ih =>
    rw [Reg.set]
    by_cases h : e.1 = k
    · rw [if_pos h, Reg.get, Reg.get, h]
      split <;> rfl
    · rw [if_neg h, Reg.get, Reg.get, ih]
      by_cases hk : k = k'
      · rw [if_pos hk, if_pos hk, if_neg (fun h' => h (h'.trans hk.symm))]
      · rw [if_neg hk, if_neg hk]

/-- what `RegisterPlugin` leaves in the registry, if it returns nil -/
def MainReg.Out.reg : Out → Option Reg
  | .ok r => some r
  | _ => none

theorem MainReg.regRun_snd (reg : Reg) (ps : List PluginDecl) : (regRun reg ps).2 = (registerAll reg ps).reg := by
  induction ps generalizing reg with
  | nil => rfl
  | cons p rest ih =>
    rw [regRun, registerAll]
    cases register (some p) reg with
    | error => rfl
    | panic => rfl
    | ok reg' => exact ih reg'

theorem MainReg.regRun_fst_ok (reg : Reg) (ps : List PluginDecl) (r : Reg) (h : (regRun reg ps).2 = some r) :
    (regRun reg ps).1 = ps.map (fun p => Step.registered p.name) := by
  induction ps generalizing reg with
  | nil => rfl
  | cons p rest ih =>
    rw [regRun] at h ⊢
    generalize register (some p) reg = o at h ⊢
    cases o with
    | error => cases h
    | panic => cases h
    | ok reg' => exact congrArg (_ :: ·) (ih reg' h)

theorem MainReg.regRun_ok (reg : Reg) (ps : List PluginDecl) (r : Reg) (h : registerAll reg ps = .ok r) :
    regRun reg ps = (ps.map (fun p => Step.registered p.name), some r) := by
  have h2 : (regRun reg ps).2 = some r := by rw [MainReg.regRun_snd, h]; rfl
  rw [← MainReg.regRun_fst_ok reg ps r h2, ← h2]

/-- whatever the loop adds is a registration or the end of the process: it neither starts the server nor loads a
configuration -/
theorem MainReg.regRun_steps (reg : Reg) (ps : List PluginDecl) :
    ∀ s ∈ (regRun reg ps).1, (∃ n, s = .registered n) ∨ (∃ n, s = .fatal (.register n)) ∨ s = .panic := by
  induction ps generalizing reg with
  | nil => exact fun _ h => (List.not_mem_nil h).elim
  | cons p rest ih =>
    intro s hs
    rw [regRun] at hs
    generalize register (some p) reg = o at hs
    cases o with
    | error => exact .inr (.inl ⟨_, List.mem_singleton.mp hs⟩)
    | panic => exact .inr (.inr (List.mem_singleton.mp hs))
    | ok reg' =>
      rcases List.mem_cons.mp hs with rfl | hs
      · exact .inl ⟨_, rfl⟩
      · exact ih reg' s hs

theorem MainReg.set_absent (reg : Reg) (k : String) (v : PluginDecl) (h : Reg.get reg k = none) :
    Reg.set reg k v = reg ++ [(k, v)] := by
  induction reg with
  | nil => rfl
  | cons e rest ih =>
    unfold Reg.get at h
    split at h
    · cases h
    · rename_i hne
      rw [Reg.set, if_neg hne, ih h, List.cons_append]

def MainReg.Reg.of (ps : List PluginDecl) : Reg := ps.map (fun p => (p.name, p))

theorem MainReg.get_of (ps : List PluginDecl) (k : String) :
    Reg.get (Reg.of ps) k = ps.find? (fun p => p.name = k) := by
  induction ps with
  | nil => rfl
  | cons p rest ih =>
    rw [Reg.of, List.map_cons, Reg.get, List.find?_cons]
    by_cases h : p.name = k
    · rw [if_pos h, decide_eq_true h]
    · rw [if_neg h, decide_eq_false h]
      exact ih

theorem MainReg.registerAll_append (ps : List PluginDecl) (reg : Reg)
    (hd : (ps.map (fun p => p.name)).Nodup) (hf : ∀ p ∈ ps, Reg.get reg p.name = none) :
    registerAll reg ps = .ok (reg ++ Reg.of ps) := by
  induction ps generalizing reg with
  | nil => rw [registerAll, Reg.of, List.map_nil, List.append_nil]
  | cons p rest ih =>
    rw [List.map_cons, List.nodup_cons] at hd
    have h0 := hf p (List.mem_cons_self ..)
    have hf' : ∀ q ∈ rest, Reg.get (Reg.set reg p.name p) q.name = none := by
      intro q hq
      rw [MainReg.get_set, if_neg (fun e => hd.1 (List.mem_map.mpr ⟨q, hq, e.symm⟩))]
      exact hf q (List.mem_cons_of_mem _ hq)
    rw [registerAll, register, h0]
    simp only [Option.isSome_none, Bool.false_eq_true, if_false]
    rw [ih _ hd.2 hf', MainReg.set_absent _ _ _ h0, List.append_assoc]
    rfl

/-- The plugin names that `desiredPlugins` lists — each resolved through the import to the `Name` of the
package's `Plugin` declaration — are pairwise distinct. -/
theorem MAINREG_names_distinct : (GenMainReg.desired.map (fun p => p.name)).Nodup := by decide +kernel

theorem MainReg.registerAll_desired : registerAll GenMainReg.registry0 GenMainReg.desired = .ok (Reg.of GenMainReg.desired) :=
  MainReg.registerAll_append GenMainReg.desired GenMainReg.registry0 MAINREG_names_distinct (fun _ _ => rfl)

theorem MainReg.reg_eq {reg : Reg} (h : registerAll GenMainReg.registry0 GenMainReg.desired = .ok reg) :
    reg = Reg.of GenMainReg.desired :=
  Out.ok.inj (h.symm.trans MainReg.registerAll_desired)

theorem MainReg.regRun_desired : regRun GenMainReg.registry0 GenMainReg.desired =
    (GenMainReg.desired.map (fun p => Step.registered p.name), some (Reg.of GenMainReg.desired)) :=
  MainReg.regRun_ok _ _ _ MainReg.registerAll_desired

/-- The registration loop of `main`, started with the empty registry of a fresh process, never ends with the error
or the panic of `RegisterPlugin`. -/
theorem MAINREG_registration_never_panics :
    ∃ reg, registerAll GenMainReg.registry0 GenMainReg.desired = .ok reg :=
  ⟨_, MainReg.registerAll_desired⟩

-- a list that names one package twice, or two packages whose declarations carry the same name, panics at the second
example : registerAll [] [⟨"x/dns", "dns", true, true⟩, ⟨"x/dns", "dns", true, true⟩] = .panic := by decide
example : registerAll [] [⟨"x/dns", "dns", true, true⟩, ⟨"x/other", "dns", true, false⟩] = .panic := by decide
example : register none [] = .error := rfl

theorem MainReg.find?_name_self : ∀ (ps : List PluginDecl), (ps.map (fun p => p.name)).Nodup → ∀ p ∈ ps,
    ps.find? (fun q => q.name = p.name) = some p
  | q :: rest, hd, p, hp => by
    rw [List.map_cons, List.nodup_cons] at hd
    rw [List.find?_cons]
    rcases List.mem_cons.mp hp with rfl | hp'
    · rw [decide_eq_true rfl]
    · rw [decide_eq_false (fun e => hd.1 (List.mem_map.mpr ⟨p, hp', e.symm⟩))]
      exact MainReg.find?_name_self rest hd.2 p hp'

theorem MainReg.find?_name_none (ps : List PluginDecl) (k : String) (hk : k ∉ ps.map (fun p => p.name)) :
    ps.find? (fun q => q.name = k) = none :=
  List.find?_eq_none.mpr fun q hq hq' => hk (List.mem_map.mpr ⟨q, hq, of_decide_eq_true hq'⟩)

/-- After main's loop the registry maps exactly the names of `desired`, each to its own entry. -/
theorem MAINREG_registry_exact :
    ∃ reg, registerAll GenMainReg.registry0 GenMainReg.desired = .ok reg ∧
      (regRun GenMainReg.registry0 GenMainReg.desired).2 = some reg ∧
      (∀ p ∈ GenMainReg.desired, Reg.get reg p.name = some p) ∧
      (∀ k, k ∉ GenMainReg.desired.map (fun p => p.name) → Reg.get reg k = none) ∧
      (∀ k, Reg.get reg k = GenMainReg.desired.find? (fun p => p.name = k)) := by
  refine ⟨_, MainReg.registerAll_desired, by rw [MainReg.regRun_desired], ?_, ?_,
    MainReg.get_of _⟩
  · intro p hp
    rw [MainReg.get_of, MainReg.find?_name_self _ MAINREG_names_distinct p hp]
  · intro k hk
    rw [MainReg.get_of, MainReg.find?_name_none _ k hk]

example : (match registerAll GenMainReg.registry0 GenMainReg.desired with
    | .ok reg => decide ((Reg.get reg "range").map (fun p => p.importPath) = some "github.com/coredhcp/coredhcp/plugins/range" ∧
        Reg.get reg "example" = none ∧ Reg.get reg "leasetime" = none ∧ (Reg.get reg "lease_time").isSome = true)
    | _ => false) = true := by
  decide +kernel

/-- Registering any of the listed plugins a second time is a panic — what would happen if main's loop ran
twice, or if a plugin package also registered itself. -/
theorem MAINREG_second_registration_panics (reg : Reg)
    (h : registerAll GenMainReg.registry0 GenMainReg.desired = .ok reg) :
    (∀ p ∈ GenMainReg.desired, register (some p) reg = .panic) ∧ registerAll reg GenMainReg.desired = .panic := by
  cases MainReg.reg_eq h
  have hall : ∀ p ∈ GenMainReg.desired, register (some p) (Reg.of GenMainReg.desired) = .panic := by
    intro p hp
    rw [register, MainReg.get_of, MainReg.find?_name_self _ MAINREG_names_distinct p hp]
    rfl
  refine ⟨hall, ?_⟩
  -- the generated `desired` reduces to a cons
  show registerAll _ (_ :: _) = _
  rw [registerAll, hall _ (List.mem_cons_self ..)]

/-- What `LoadPlugins` (Model/Plugins.lean) sees of the registry main's loop has built, for DHCPv4. -/
theorem MAINREG_view4 {H : Type} (setups : PluginDecl → Setup H) (reg : Reg)
    (h : registerAll GenMainReg.registry0 GenMainReg.desired = .ok reg) (name : String) :
    Reg.view4 setups reg name =
      match GenMainReg.desired.find? (fun p => p.name = name) with
      | none => none
      | some p => some (if p.has4 = true then some (setups p) else none) := by
  cases MainReg.reg_eq h
  unfold Reg.view4
  rw [MainReg.get_of]
  cases GenMainReg.desired.find? (fun p => decide (p.name = name)) <;> rfl

theorem MAINREG_view6 {H : Type} (setups : PluginDecl → Setup H) (reg : Reg)
    (h : registerAll GenMainReg.registry0 GenMainReg.desired = .ok reg) (name : String) :
    Reg.view6 setups reg name =
      match GenMainReg.desired.find? (fun p => p.name = name) with
      | none => none
      | some p => some (if p.has6 = true then some (setups p) else none) := by
  cases MainReg.reg_eq h
  unfold Reg.view6
  rw [MainReg.get_of]
  cases GenMainReg.desired.find? (fun p => decide (p.name = name)) <;> rfl

/-- A configuration that names a plugin `desiredPlugins` does not list is rejected by `LoadPlugins` (by
`C13_load_aborts`, for the concrete registry of the server program), for either protocol. -/
theorem MAINREG_unknown_name_rejected {H : Type} (setups : PluginDecl → Setup H) (reg : Reg)
    (h : registerAll GenMainReg.registry0 GenMainReg.desired = .ok reg)
    (ps : List (String × List String)) (q : String × List String) (hq : q ∈ ps)
    (hn : q.1 ∉ GenMainReg.desired.map (fun p => p.name)) :
    (∃ e, loadChain (Reg.view4 setups reg) ps = .error e) ∧ (∃ e, loadChain (Reg.view6 setups reg) ps = .error e) := by
  have hfind := MainReg.find?_name_none _ q.1 hn
  constructor
  · exact C13_load_aborts _ ps (Or.inl ⟨q, hq, by rw [MAINREG_view4 setups reg h, hfind]⟩)
  · exact C13_load_aborts _ ps (Or.inl ⟨q, hq, by rw [MAINREG_view6 setups reg h, hfind]⟩)

/-- A listed plugin whose declaration has no set-up function for a protocol is skipped when that protocol's
chain is loaded: no handler, no error (`prefix` in a DHCPv4 list, `range` in a DHCPv6 list, …). -/
theorem MAINREG_unsupported_skipped {H : Type} (setups : PluginDecl → Setup H) (reg : Reg)
    (h : registerAll GenMainReg.registry0 GenMainReg.desired = .ok reg)
    (p : PluginDecl) (hp : p ∈ GenMainReg.desired) (args : List String) (rest : List (String × List String)) :
    (p.has4 = false → loadChain (Reg.view4 setups reg) ((p.name, args) :: rest) = loadChain (Reg.view4 setups reg) rest) ∧
    (p.has6 = false → loadChain (Reg.view6 setups reg) ((p.name, args) :: rest) = loadChain (Reg.view6 setups reg) rest) := by
  have hf := MainReg.find?_name_self _ MAINREG_names_distinct p hp
  constructor
  · intro hs
    simp only [loadChain_cons, MAINREG_view4 setups reg h, hf, hs, Bool.false_eq_true, if_false]
  · intro hs
    simp only [loadChain_cons, MAINREG_view6 setups reg h, hf, hs, Bool.false_eq_true, if_false]

/-- the registry `LoadPlugins` sees when exactly the plugins `ds` are registered: each name with the set-up function of
its declaration, when that has one for the protocol (`has`) -/
def MainReg.viewOf {H : Type} (ds : List PluginDecl) (has : PluginDecl → Bool) (setups : PluginDecl → Setup H) :
    Registry H := fun name =>
  match ds.find? (fun p => p.name = name) with
  | none => none
  | some p => some (if has p = true then some (setups p) else none)

theorem MainReg.view4_eq {H : Type} (setups : PluginDecl → Setup H) (reg : Reg)
    (h : registerAll GenMainReg.registry0 GenMainReg.desired = .ok reg) :
    Reg.view4 setups reg = MainReg.viewOf GenMainReg.desired (·.has4) setups :=
  funext (MAINREG_view4 setups reg h)

theorem MainReg.view6_eq {H : Type} (setups : PluginDecl → Setup H) (reg : Reg)
    (h : registerAll GenMainReg.registry0 GenMainReg.desired = .ok reg) :
    Reg.view6 setups reg = MainReg.viewOf GenMainReg.desired (·.has6) setups :=
  funext (MAINREG_view6 setups reg h)

theorem MainReg.load_exact {H : Type} (ds : List PluginDecl) (has : PluginDecl → Bool) (setups : PluginDecl → Setup H)
    (ps : List (String × List String)) (hs : List H) (hl : loadChain (MainReg.viewOf ds has setups) ps = .ok hs) :
    (∀ q ∈ ps, q.1 ∈ ds.map (fun p => p.name)) ∧
    (ps.filterMap (fun q => match ds.find? (fun p => p.name = q.1) with
        | some d => if has d = true then some (setups d q.2) else none
        | none => none)) = hs.map (fun x => .ok (some x)) := by
  obtain ⟨h1, h2⟩ := C13_load_exact _ ps hs hl
  constructor
  · intro q hq
    -- a name that is not listed is not in the view
    refine Decidable.by_contra fun hn => ?_
    have := h1 q hq
    rw [MainReg.viewOf, MainReg.find?_name_none ds q.1 hn] at this
    cases this
  · rw [← h2, supported, List.map_filterMap]
    refine congrArg (List.filterMap · ps) (funext fun q => ?_)
    rw [MainReg.viewOf]
    cases ds.find? (fun p => decide (p.name = q.1)) with
    | none => rfl
    | some d => cases hd : has d <;> simp [hd]

/-- `C13_load_exact` for the server program: when the DHCPv4 chain loads, every configured name is one of
`desired`, and the handlers are — in configuration order — what the `Setup4` of the listed declarations that have
one returned for the configured arguments. -/
theorem MAINREG_load_exact4 {H : Type} (setups : PluginDecl → Setup H) (reg : Reg)
    (h : registerAll GenMainReg.registry0 GenMainReg.desired = .ok reg)
    (ps : List (String × List String)) (hs : List H) (hl : loadChain (Reg.view4 setups reg) ps = .ok hs) :
    (∀ q ∈ ps, q.1 ∈ GenMainReg.desired.map (fun p => p.name)) ∧
    (ps.filterMap (fun q => match GenMainReg.desired.find? (fun p => p.name = q.1) with
        | some d => if d.has4 = true then some (setups d q.2) else none
        | none => none)) = hs.map (fun x => .ok (some x)) :=
  MainReg.load_exact _ (·.has4) setups ps hs (MainReg.view4_eq setups reg h ▸ hl)

theorem MAINREG_load_exact6 {H : Type} (setups : PluginDecl → Setup H) (reg : Reg)
    (h : registerAll GenMainReg.registry0 GenMainReg.desired = .ok reg)
    (ps : List (String × List String)) (hs : List H) (hl : loadChain (Reg.view6 setups reg) ps = .ok hs) :
    (∀ q ∈ ps, q.1 ∈ GenMainReg.desired.map (fun p => p.name)) ∧
    (ps.filterMap (fun q => match GenMainReg.desired.find? (fun p => p.name = q.1) with
        | some d => if d.has6 = true then some (setups d q.2) else none
        | none => none)) = hs.map (fun x => .ok (some x)) :=
  MainReg.load_exact _ (·.has6) setups ps hs (MainReg.view6_eq setups reg h ▸ hl)

/-- (for the examples) the result of loading a chain is this list of handlers / this error -/
def MainReg.chainIs (r : Except LoadErr (List String)) (want : List String ⊕ LoadErr) : Bool :=
  match r, want with
  | .ok l, .inl l' => l == l'
  | .error e, .inr e' => decide (e = e')
  | _, _ => false

-- with set-up functions that always give a handler (the plugin's name): a DHCPv4 list with `prefix` in it loads
-- without it; a list with a name that is not built in (the example plugin, a misspelt lease_time) is rejected
example : (match registerAll GenMainReg.registry0 GenMainReg.desired with
    | .ok reg =>
      MainReg.chainIs (loadChain (Reg.view4 (fun p _ => .ok (some p.name)) reg) [("server_id", []), ("prefix", []), ("range", [])])
          (.inl ["server_id", "range"]) &&
        MainReg.chainIs (loadChain (Reg.view6 (fun p _ => .ok (some p.name)) reg) [("server_id", []), ("prefix", []), ("range", [])])
          (.inl ["server_id", "prefix"]) &&
        MainReg.chainIs (loadChain (Reg.view4 (fun p _ => .ok (some p.name)) reg) [("server_id", []), ("example", [])])
          (.inr (.unknown "example")) &&
        MainReg.chainIs (loadChain (Reg.view4 (fun p _ => .ok (some p.name)) reg) [("leasetime", ["1h"])])
          (.inr (.unknown "leasetime"))
    | _ => false) = true := by decide +kernel

/-- The table read from the fifteen `var Plugin = plugins.Plugin{…}` declarations, as it is today:
(name, has a DHCPv4 set-up, has a DHCPv6 set-up), in the order of `desiredPlugins`. -/
theorem MAINREG_protocol_support :
    GenMainReg.desired.map (fun p => (p.name, p.has4, p.has6)) =
      [("autoconfigure", true, false), ("dns", true, true), ("file", true, true), ("ipv6only", true, false),
       ("lease_time", true, false), ("mtu", true, false), ("nbp", true, true), ("netmask", true, false),
       ("prefix", false, true), ("range", true, false), ("router", true, false), ("searchdomains", true, true),
       ("server_id", true, true), ("sleep", true, true), ("staticroute", true, false)] := rfl

theorem MainReg.isSome_ite_some {α : Type} (c : Prop) [Decidable c] (x : α) (y : Option α) :
    (if c then some x else y).isSome = (decide c || y.isSome) := by
  by_cases h : c <;> simp [h]

theorem MainReg.plugSetup4_isSome (name : String) (args : List Plug.ArgOracle) :
    (Plug.plugSetup4 name args).isSome = ["dns", "mtu", "netmask", "router", "lease_time", "searchdomains", "staticroute",
      "ipv6only", "autoconfigure", "nbp", "sleep", "server_id"].contains name := by
  simp only [Plug.plugSetup4, MainReg.isSome_ite_some, Option.isSome_none, List.contains_cons, List.contains_nil]
  rfl

theorem MainReg.plugSetup6_isSome (name : String) (args : List Plug.ArgOracle) :
    (Plug.plugSetup6 name args).isSome = ["dns", "searchdomains", "nbp", "sleep", "server_id"].contains name := by
  simp only [Plug.plugSetup6, MainReg.isSome_ite_some, Option.isSome_none, List.contains_cons, List.contains_nil]
  rfl

/-- the three stateful plugins are no option plugins: `file` (both protocols), `range` (DHCPv4), `prefix` (DHCPv6) -/
theorem MainReg.decl_iff_model (args : List Plug.ArgOracle) : ∀ p ∈ GenMainReg.desired, p.name ≠ "file" →
    (p.name ≠ "range" → (Plug.plugSetup4 p.name args).isSome = p.has4) ∧
    (p.name ≠ "prefix" → (Plug.plugSetup6 p.name args).isSome = p.has6) := by
  simp only [MainReg.plugSetup4_isSome, MainReg.plugSetup6_isSome]
  decide +kernel

/-- The table agrees with the models there are: for every listed plugin other than the three stateful ones, the
option-plugin model `Plug.plugSetup4` / `Plug.plugSetup6` (Model/OptPlug.lean; tied to the set-up functions by unit
`setups`) has a set-up for a protocol exactly when the plugin's declaration has one; and the three stateful ones
are declared for exactly the protocols Model/System.lean has chain elements for — `file`: both (`Elem4.file`,
`Elem6.file`), `range`: DHCPv4 only (`Elem4.lease`), `prefix`: DHCPv6 only (`Elem6.pd`). -/
theorem MAINREG_protocol_support_models (args : List Plug.ArgOracle) :
    (∀ p ∈ GenMainReg.desired, p.name ∉ ["file", "range", "prefix"] →
      (Plug.plugSetup4 p.name args).isSome = p.has4 ∧ (Plug.plugSetup6 p.name args).isSome = p.has6) ∧
    (GenMainReg.desired.filter (fun p => ["file", "range", "prefix"].contains p.name)).map (fun p => (p.name, p.has4, p.has6))
      = [("file", true, true), ("prefix", false, true), ("range", true, false)] := by
  refine ⟨fun p hp hn => ?_, by decide +kernel⟩
  simp only [List.mem_cons, List.not_mem_nil, or_false, not_or] at hn
  have h := MainReg.decl_iff_model args p hp hn.1
  exact ⟨h.1 hn.2.1, h.2 hn.2.2⟩

/-- the logger set-up loads, registers and starts nothing -/
theorem MainReg.head_no_effect (f : Flags) : ∀ s ∈ [Step.parseFlags, Step.getLogger "main"] ++ MainReg.logging f,
    (∀ n, s ≠ .registered n) ∧ (∀ c, s ≠ .start c) ∧ (∀ p, s ≠ .load p) := by
  intro s hs
  simp only [MainReg.logging, List.mem_append, List.mem_cons, List.not_mem_nil, or_false] at hs
  rcases hs with (rfl | rfl) | (rfl | h) | h
  · simp only [ne_eq, reduceCtorEq, not_false_eq_true, implies_true, and_self]
  · simp only [ne_eq, reduceCtorEq, not_false_eq_true, implies_true, and_self]
  · simp only [ne_eq, reduceCtorEq, not_false_eq_true, implies_true, and_self]
  all_goals
    split at h
    · cases List.mem_singleton.mp h
      simp only [ne_eq, reduceCtorEq, not_false_eq_true, implies_true, and_self]
    · cases h

theorem MainReg.mem_print_trace {ps : List PluginDecl} {s : Step}
    (h : s ∈ Step.parseFlags :: (ps.map (fun p => Step.print p.name) ++ [Step.exit 0])) :
    s = .parseFlags ∨ (∃ n, s = .print n) ∨ s = .exit 0 := by
  rcases List.mem_cons.mp h with h | h
  · exact .inl h
  rcases List.mem_append.mp h with h | h
  · obtain ⟨q, _, rfl⟩ := List.mem_map.mp h
    exact .inr (.inl ⟨_, rfl⟩)
  · exact .inr (.inr (List.mem_singleton.mp h))

theorem MainReg.main_plugins (levels : List String) (desired : List PluginDecl) (reg0 : Reg) (f : Flags) (w : World)
    (hp : f.plugins = true) :
    MainReg.main levels desired reg0 f w = .parseFlags :: (desired.map (fun p => Step.print p.name) ++ [.exit 0]) := by
  rw [MainReg.main, if_pos hp]

theorem MainReg.main_badlevel (levels : List String) (desired : List PluginDecl) (reg0 : Reg) (f : Flags) (w : World)
    (hp : f.plugins = false) (hl : levels.contains f.loglevel = false) :
    MainReg.main levels desired reg0 f w = [.parseFlags, .getLogger "main", .fatal .logLevel] := by
  rw [MainReg.main, hp, hl]
  rfl

theorem MainReg.main_run (levels : List String) (desired : List PluginDecl) (reg0 : Reg) (f : Flags) (w : World)
    (hp : f.plugins = false) (hl : levels.contains f.loglevel = true) :
    MainReg.main levels desired reg0 f w =
      ([.parseFlags, .getLogger "main"] ++ MainReg.logging f) ++ .load f.conf ::
        match w.load f.conf, (regRun reg0 desired).2 with
        | none, _ => [.fatal .load]
        | some _, none => (regRun reg0 desired).1
        | some c, some _ => (regRun reg0 desired).1 ++ .start c ::
            (if w.start c = true then [.wait, .ret] else [.fatal .start]) := by
  simp only [MainReg.main, hp, hl, Bool.false_eq_true, Bool.true_eq_false, if_false]
  cases w.load f.conf with
  | none => simp only [List.append_assoc, List.cons_append, List.nil_append]
  | some c =>
    cases regRun reg0 desired with
    | mk steps r => cases r <;> simp only [List.append_assoc, List.cons_append, List.nil_append]

/-- What the occurrence of a step in a run of `main` tells about that run: a load is of the --conf file; a registration
comes after a load that succeeded; a start is of the configuration loaded, after registrations that all succeeded
(and the flags were accepted).  By cases on the step, so that it computes at `.load p`, `.registered n`, `.start c`. -/
def MainReg.Tells (levels : List String) (desired : List PluginDecl) (reg0 : Reg) (f : Flags) (w : World) : Step → Prop
  | .load p => p = f.conf
  | .registered _ => w.load f.conf ≠ none
  | .start c => w.load f.conf = some c ∧ (regRun reg0 desired).2 ≠ none ∧
      (f.plugins = false ∧ levels.contains f.loglevel = true)
  | _ => True

theorem MainReg.step_mem (levels : List String) (desired : List PluginDecl) (reg0 : Reg) (f : Flags) (w : World)
    {s : Step} (h : s ∈ MainReg.main levels desired reg0 f w) : MainReg.Tells levels desired reg0 f w s := by
  cases hp : f.plugins with
  | true =>
    rw [MainReg.main_plugins levels desired reg0 f w hp] at h
    rcases MainReg.mem_print_trace h with rfl | ⟨n, rfl⟩ | rfl <;> trivial
  | false =>
    cases hl : levels.contains f.loglevel with
    | false =>
      rw [MainReg.main_badlevel levels desired reg0 f w hp hl] at h
      simp only [List.mem_cons, List.not_mem_nil, or_false] at h
      rcases h with rfl | rfl | rfl <;> trivial
    | true =>
      rw [MainReg.main_run levels desired reg0 f w hp hl] at h
      rcases List.mem_append.mp h with h | h
      · obtain ⟨h1, h2, h3⟩ := MainReg.head_no_effect f s h
        cases s with
        | load p => exact absurd rfl (h3 p)
        | registered n => exact absurd rfl (h1 n)
        | start c => exact absurd rfl (h2 c)
        | _ => trivial
      rcases List.mem_cons.mp h with rfl | h
      · exact rfl
      cases hw : w.load f.conf with
      | none =>
        rw [hw] at h
        cases List.mem_singleton.mp h
        trivial
      | some c =>
        rw [hw] at h
        have hreg : s ∈ (regRun reg0 desired).1 → MainReg.Tells levels desired reg0 f w s := by
          intro h
          rcases MainReg.regRun_steps reg0 desired s h with ⟨n, rfl⟩ | ⟨n, rfl⟩ | rfl
          · exact fun e => nomatch hw.symm.trans e
          · trivial
          · trivial
        cases hr : (regRun reg0 desired).2 with
        | none =>
          rw [hr] at h
          exact hreg h
        | some r =>
          rw [hr] at h
          rcases List.mem_append.mp h with h | h
          · exact hreg h
          rcases List.mem_cons.mp h with rfl | h
          · exact ⟨hw, (fun e => nomatch hr.symm.trans e), hp, hl⟩
          -- after the start: `wait`, `ret` or the fatal end
          split at h
          · simp only [List.mem_cons, List.not_mem_nil, or_false] at h
            rcases h with rfl | rfl <;> trivial
          · cases List.mem_singleton.mp h
            trivial

/-- In every run of `main` (any log levels, any plugin list, any initial registry, any flags, any world):
the only configuration loaded is the file named with --conf; when that load fails nothing is registered and the
server is not started; when a registration fails (or panics) the server is not started; and when the server is
started, it is started with the configuration `config.Load` returned for the --conf path, AFTER that load and
AFTER every plugin of the list was registered in order — nothing is registered or started before the load. -/
theorem MAINREG_config_before_sockets (levels : List String) (desired : List PluginDecl) (reg0 : Reg) (f : Flags) (w : World) :
    (∀ p, Step.load p ∈ MainReg.main levels desired reg0 f w → p = f.conf) ∧
    (w.load f.conf = none → ∀ s ∈ MainReg.main levels desired reg0 f w, (∀ n, s ≠ .registered n) ∧ (∀ c, s ≠ .start c)) ∧
    ((regRun reg0 desired).2 = none → ∀ c, Step.start c ∉ MainReg.main levels desired reg0 f w) ∧
    (∀ c, Step.start c ∈ MainReg.main levels desired reg0 f w →
      w.load f.conf = some c ∧
      ∃ pre post, MainReg.main levels desired reg0 f w =
          pre ++ Step.load f.conf :: (desired.map (fun p => Step.registered p.name) ++ Step.start c :: post) ∧
        ∀ s ∈ pre, (∀ n, s ≠ .registered n) ∧ (∀ c', s ≠ .start c') ∧ (∀ p, s ≠ .load p)) := by
  have step := fun {s : Step} => MainReg.step_mem levels desired reg0 f w (s := s)
  refine ⟨fun p h => step h, fun hw s h => ⟨fun n e => ?_, fun c e => ?_⟩, fun hr c h => (step h).2.1 hr, fun c h => ?_⟩
  · subst e
    exact step h hw
  · subst e
    exact nomatch hw.symm.trans (step h).1
  · obtain ⟨hw, hne, hrun⟩ := step h
    obtain ⟨r, hr⟩ := Option.ne_none_iff_exists'.mp hne
    refine ⟨hw, _, if w.start c = true then [.wait, .ret] else [.fatal .start], ?_, MainReg.head_no_effect f⟩
    rw [MainReg.main_run levels desired reg0 f w hrun.1 hrun.2, hw, hr, MainReg.regRun_fst_ok reg0 desired r hr]

theorem MAINREG_config_before_sockets_gen (f : Flags) (w : World) :
    (∀ p, Step.load p ∈ GenMainReg.main f w → p = f.conf) ∧
    (w.load f.conf = none → ∀ s ∈ GenMainReg.main f w, (∀ n, s ≠ .registered n) ∧ (∀ c, s ≠ .start c)) ∧
    (∀ c, Step.start c ∈ GenMainReg.main f w →
      w.load f.conf = some c ∧
      ∃ pre post, GenMainReg.main f w =
          pre ++ Step.load f.conf :: (GenMainReg.desired.map (fun p => Step.registered p.name) ++ Step.start c :: post) ∧
        ∀ s ∈ pre, (∀ n, s ≠ .registered n) ∧ (∀ c', s ≠ .start c') ∧ (∀ p, s ≠ .load p)) := by
  rw [GEN_mainreg_main_eq]
  have h := MAINREG_config_before_sockets GenMainReg.logLevelNames GenMainReg.desired GenMainReg.registry0 f w
  exact ⟨h.1, h.2.1, h.2.2.2⟩

/-- A whole run of the server program without --plugins and with a valid log level: the logger, the load of the
--conf file, and then either the fatal end, or all fifteen registrations in the order of `desiredPlugins`, the
start of the server with the loaded configuration, and the wait (or the fatal end when the start fails). -/
theorem MAINREG_run (f : Flags) (w : World) (hp : f.plugins = false)
    (hl : GenMainReg.logLevelNames.contains f.loglevel = true) :
    GenMainReg.main f w =
      [.parseFlags, .getLogger "main"] ++ MainReg.logging f ++ [.load f.conf] ++
        match w.load f.conf with
        | none => [.fatal .load]
        | some c => GenMainReg.desired.map (fun p => Step.registered p.name) ++ [.start c] ++
            (if w.start c = true then [.wait, .ret] else [.fatal .start]) := by
  rw [GEN_mainreg_main_eq, MainReg.main_run _ _ _ f w hp hl, MainReg.regRun_desired]
  cases w.load f.conf <;> simp only [List.append_assoc, List.cons_append, List.nil_append]

/-- With -P (--plugins) nothing is loaded, registered or started: the whole run is `flag.Parse()`, one printed
line per plugin of `desired` — its name, in order — and `os.Exit(0)`; the world is not asked anything. -/
theorem MAINREG_list_plugins_is_pure (f : Flags) (w : World) (hp : f.plugins = true) :
    GenMainReg.main f w = .parseFlags :: (GenMainReg.desired.map (fun p => Step.print p.name) ++ [.exit 0]) ∧
    (∀ s ∈ GenMainReg.main f w, (∀ p, s ≠ .load p) ∧ (∀ n, s ≠ .registered n) ∧ (∀ c, s ≠ .start c) ∧
      (∀ n, s ≠ .getLogger n)) := by
  have h := (GEN_mainreg_main_eq f w).trans (MainReg.main_plugins _ _ _ f w hp)
  refine ⟨h, fun s hs => ?_⟩
  rw [h] at hs
  rcases MainReg.mem_print_trace hs with rfl | ⟨n, rfl⟩ | rfl <;> simp

def MainReg.exWorld : World := ⟨fun p => if p = "/etc/coredhcp.yml" then some 7 else none, fun _ => true⟩

-- a normal start: fifteen registrations between the load and the start, the start gets configuration 7
example : GenMainReg.main ⟨"", false, "info", "/etc/coredhcp.yml", false⟩ MainReg.exWorld =
    [.parseFlags, .getLogger "main", .setLevel "info", .load "/etc/coredhcp.yml",
     .registered "autoconfigure", .registered "dns", .registered "file", .registered "ipv6only", .registered "lease_time",
     .registered "mtu", .registered "nbp", .registered "netmask", .registered "prefix", .registered "range",
     .registered "router", .registered "searchdomains", .registered "server_id", .registered "sleep",
     .registered "staticroute", .start 7, .wait, .ret] := by decide +kernel
-- the configuration file does not load: fatal, nothing registered, nothing started
example : GenMainReg.main ⟨"log", true, "debug", "/nonexistent", false⟩ MainReg.exWorld =
    [.parseFlags, .getLogger "main", .setLevel "debug", .withFile "log", .withNoStdout, .load "/nonexistent", .fatal .load] := by
  decide +kernel
-- an invalid log level is fatal before the configuration is looked at
example : GenMainReg.main ⟨"", false, "verbose", "/etc/coredhcp.yml", false⟩ MainReg.exWorld =
    [.parseFlags, .getLogger "main", .fatal .logLevel] := by decide +kernel
example : (GenMainReg.main ⟨"", false, "verbose", "/nonexistent", true⟩ MainReg.exWorld).length = 17 := by decide +kernel
-- a main that registered its plugins twice (or ran on top of plugin packages that register themselves) would panic
-- at the first plugin, before the server is started: the model's main from a registry that already has them
example : MainReg.main GenMainReg.logLevelNames GenMainReg.desired [("autoconfigure", ⟨"x", "autoconfigure", true, false⟩)]
    ⟨"", false, "info", "/etc/coredhcp.yml", false⟩ MainReg.exWorld =
    [.parseFlags, .getLogger "main", .setLevel "info", .load "/etc/coredhcp.yml", .panic] := by decide +kernel
-- `MAINREG_config_before_sockets` is violated by a program that starts the server before it loads: such a trace
-- has a `start` with no `load` before it, which no run of `main` has
example : ¬ ∃ pre post, [Step.start 7, Step.load "/etc/coredhcp.yml"] =
    pre ++ Step.load "/etc/coredhcp.yml" :: (([] : List PluginDecl).map (fun p => Step.registered p.name) ++ Step.start 7 :: post) := by
  rintro ⟨pre, post, h⟩
  rcases pre with _ | ⟨a, _ | ⟨b, rest⟩⟩ <;> simp at h

end CoreDhcp
