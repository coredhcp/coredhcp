/-
GEN, unit `rangesetup` (DESIGN.md §1.5b): the argument and start-up part of `setupRange` and `var Plugin` of
plugins/range/plugin.go, regenerated from the go/ast into Generated/RangeSetup.lean, against Model/RangeSetup.lean; and,
about the generated function, what C19 ("an accepted configuration satisfies the preconditions of the handler theorems,
a rejected one never serves"), C02 and C03 (`start < stop`, `RState.setup … = .ok s0`, a lease time of whole seconds)
rely on.  What the allocator, `registerBackingDB`, `loadRecords`, the re-marking loop and `Handler4` DO is in the units
alloc4, storage and range4; here their outcomes are the answers of a `World`, each a function of the call's arguments,
so that the statements say WHICH argument goes to WHICH call; `World.ofModel` plugs the models of those units in.
`Round(time.Second)` is `goRoundSecond` (halves away from zero, as Go rounds); the code before the repair of D21 (no
test of the rounded lease time) is `RangeSetup.setupOld`.
-/
import CoreDhcp.Generated.RangeSetup
import CoreDhcp.Props.C02
import CoreDhcp.Props.C03
namespace CoreDhcp
open RangeSetup

theorem GEN_rangesetup_setup_eq (args : List String) (w : World) :
    GenRangeSetup.setupRange args w = RangeSetup.setup args w := by
  rcases args with _ | ⟨file, _ | ⟨a, _ | ⟨b, _ | ⟨d, rest⟩⟩⟩⟩
  · rfl
  · rfl
  · rfl
  · rfl
  · have hlen : ¬ ((file :: a :: b :: d :: rest).length < 4) := Nat.not_lt.2 (Nat.le_add_left 4 _)
    simp only [GenRangeSetup.setupRange, RangeSetup.setup, fail, hlen, if_false, List.getD_cons_zero,
      List.getD_cons_succ, Bool.not_eq_true']
    -- the two texts differ only in how they look at the three parsed values (`= none` and `getD` against `match`)
    cases w.ip4 a with
    | none => rfl
    | some start =>
      cases w.ip4 b with
      | none => rfl
      | some stop =>
        cases w.duration d with
        | none => rfl
        | some ns => rfl

theorem GEN_rangesetup_plugin_eq : GenRangeSetup.plugin = RangeSetup.plugin := rfl


/-! a world in which everything succeeds, for the examples: addresses are looked up in a small table -/
private def okWorld : World where
  ip4 := fun s => if s = "10.0.0.1" then some 0x0a000001#32 else if s = "10.0.0.9" then some 0x0a000009#32
    else if s = "::ffff:10.0.0.9" then some 0x0a000009#32 else none
  newAlloc := fun _ _ => true
  duration := fun s => if s = "1h" then some 3600000000000 else if s = "1500ms" then some 1500000000
    else if s = "-1h" then some (-3600000000000) else if s = "1193047h" then some 4294969200000000000
    else if s = "-500ms" then some (-500000000) else if s = "-499999999ns" then some (-499999999)
    else if s = "4294967295499999999ns" then some 4294967295499999999
    else if s = "4294967295500ms" then some 4294967295500000000 else none
  register := fun _ => true
  loadOk := true
  remarkOk := true

example : GenRangeSetup.setupRange ["leases.db", "10.0.0.1", "10.0.0.9", "1h"] okWorld
    = ⟨some ⟨"leases.db", 0x0a000001#32, 0x0a000009#32, 3600000000000⟩, none⟩ := by decide +kernel
example : GenRangeSetup.setupRange ["leases.db", "10.0.0.1", "10.0.0.9"] okWorld = ⟨none, some .arity⟩ := by decide
example : GenRangeSetup.setupRange ["", "10.0.0.1", "10.0.0.9", "1h"] okWorld = ⟨none, some .emptyFileName⟩ := by decide +kernel
example : GenRangeSetup.setupRange ["f", "fe80::1", "10.0.0.9", "1h"] okWorld = ⟨none, some (.notIPv4 1)⟩ := by decide +kernel
example : GenRangeSetup.setupRange ["f", "10.0.0.1", "ten", "1h"] okWorld = ⟨none, some (.notIPv4 2)⟩ := by decide +kernel
example : GenRangeSetup.setupRange ["f", "10.0.0.9", "10.0.0.1", "1h"] okWorld = ⟨none, some .badRange⟩ := by decide +kernel
example : GenRangeSetup.setupRange ["f", "10.0.0.1", "10.0.0.9", "soon"] okWorld = ⟨none, some .badDuration⟩ := by decide +kernel
-- each call is asked about ITS argument: a world that knows only the start address refuses the end, and `register` is asked
-- about the file name (one that accepts only "10.0.0.1" refuses "f")
example : GenRangeSetup.setupRange ["f", "10.0.0.1", "10.0.0.9", "1h"] { okWorld with ip4 := fun s => if s = "10.0.0.1" then some 1#32 else none }
    = ⟨none, some (.notIPv4 2)⟩ := by decide +kernel
example : GenRangeSetup.setupRange ["f", "10.0.0.1", "10.0.0.9", "1h"] { okWorld with register := fun f => f == "10.0.0.1" }
    = ⟨none, some .storage⟩ := by decide +kernel
-- the allocator is given (start, end) in this order
example : GenRangeSetup.setupRange ["f", "10.0.0.1", "10.0.0.9", "1h"]
    { okWorld with newAlloc := fun a b => a == some 0x0a000009#32 && b == some 0x0a000001#32 } = ⟨none, some .allocator⟩ := by decide +kernel

/-- a run of guarded returns: the error of the first test that fails, else `ok` -/
def RangeSetup.cascade (ok : Out) : List (Bool × Err) → Out
  | [] => ok
  | (c, e) :: l => if c then fail e else cascade ok l

theorem RangeSetup.cascade_eq (ok : Out) (l : List (Bool × Err)) :
    cascade ok l = match (l.find? (·.1)).map (·.2) with
      | some e => fail e
      | none => ok := by
  induction l with
  | nil => rfl
  | cons p l ih =>
    obtain ⟨c, e⟩ := p
    cases c
    · simpa only [cascade, List.find?_cons_of_neg, Bool.false_eq_true, if_false, not_false_eq_true] using ih
    · rfl

theorem RangeSetup.find_cons_eq_some (c : Bool) (e e' : Err) (l : List (Bool × Err)) :
    (((c, e) :: l).find? (·.1)).map (·.2) = some e' ↔
      (c = true ∧ e = e') ∨ (c = false ∧ (l.find? (·.1)).map (·.2) = some e') := by
  cases c
  · simp only [List.find?_cons, Bool.false_eq_true, false_and, false_or, true_and]
  · simp only [List.find?_cons, Option.map_some, Option.some.injEq, true_and, Bool.true_eq_false, false_and, or_false]

/-- the state the handler is bound to when every test has passed: the last line of the generated `setupRange` -/
def RangeSetup.config (args : List String) (w : World) : Config :=
  ⟨args.getD 0 "", (w.ip4 (args.getD 1 "")).getD 0#32, (w.ip4 (args.getD 2 "")).getD 0#32,
    goRoundSecond ((w.duration (args.getD 3 "")).getD 0)⟩

/-- The generated `setupRange` returns the error of the first test of `checks` that fails, else the handler.
`GEN_rangesetup_setup_eq` above compares the generated text with the model's nested `setup`; this reading, test by
test, is what the theorems about acceptance and about the error returned are proved from. -/
theorem GenRangeSetup.setupRange_eq (args : List String) (w : World) :
    GenRangeSetup.setupRange args w = match firstFailure args w with
      | some e => fail e
      | none => ⟨some (config args w), none⟩ := by
  unfold firstFailure
  rw [← cascade_eq]
  simp only [checks, cascade, fail, decide_eq_true_eq, Option.isNone_iff_eq_none, Bool.not_eq_true']
  rfl

theorem GenRangeSetup.err_eq (args : List String) (w : World) :
    (GenRangeSetup.setupRange args w).err = firstFailure args w := by
  rw [GenRangeSetup.setupRange_eq]
  cases firstFailure args w <;> rfl

/-- the pair returned has a handler or an error, never both and never neither — on every error path
the handler is nil, so a configuration that is rejected never serves (C19) -/
theorem RANGESETUP_no_partial_state (args : List String) (w : World) :
    ((GenRangeSetup.setupRange args w).err ≠ none → (GenRangeSetup.setupRange args w).handler = none) ∧
    ((GenRangeSetup.setupRange args w).err = none → (GenRangeSetup.setupRange args w).handler ≠ none) := by
  rw [GenRangeSetup.setupRange_eq]
  cases firstFailure args w with
  | some e => exact ⟨fun _ => rfl, fun h => nomatch h⟩
  | none => exact ⟨fun h => absurd rfl h, fun _ h => nomatch h⟩

-- a variant that hands the handler out next to an error is another function
example : (⟨some ⟨"f", 1#32, 2#32, 0⟩, some .load⟩ : Out) ≠ GenRangeSetup.setupRange ["f", "10.0.0.1", "10.0.0.9", "1h"] { okWorld with loadOk := false } := by decide +kernel

theorem RangeSetup.eq_cons4_of_four_le_length {α} (l : List α) (h : 4 ≤ l.length) :
    ∃ x a b d rest, l = x :: a :: b :: d :: rest := by
  rcases l with _ | ⟨x, _ | ⟨a, _ | ⟨b, _ | ⟨d, rest⟩⟩⟩⟩
  · simp at h
  · simp at h
  · simp at h
  · simp at h
  · exact ⟨x, a, b, d, rest, rfl⟩

/-- the lease-time test of `setupRange` (its literal is 2^32 − 1 seconds in ns) -/
theorem RangeSetup.lease_fits_iff (x : Int) :
    ¬ (x < 0 ∨ x > 4294967295000000000) ↔ 0 ≤ x ∧ x ≤ 4294967295 * nsPerSec := by
  unfold nsPerSec; omega

/-- What acceptance establishes, in terms of the arguments as `setupRange` indexes them: every test of `checks`
passed and the handler's configuration `c` was filled from the values the tests looked at. -/
structure RangeSetup.Accepted (args : List String) (w : World) (c : Config) : Prop where
  len : 4 ≤ args.length
  file : c.file = args.getD 0 ""
  file_ne : c.file ≠ ""
  start : w.ip4 (args.getD 1 "") = some c.start
  stop : w.ip4 (args.getD 2 "") = some c.stop
  lt : c.start.toNat < c.stop.toNat
  alloc : w.newAlloc (some c.start) (some c.stop) = true
  dur : ∃ ns, w.duration (args.getD 3 "") = some ns ∧ c.lease = goRoundSecond ns
  lease_nonneg : 0 ≤ c.lease
  lease_le : c.lease ≤ 4294967295 * nsPerSec
  register : w.register c.file = true
  loadOk : w.loadOk = true
  remarkOk : w.remarkOk = true

theorem RangeSetup.firstFailure_eq_none_iff (args : List String) (w : World) :
    firstFailure args w = none ↔ Accepted args w (config args w) := by
  -- no test fails: each entry of `checks` is false
  simp only [firstFailure, Option.map_eq_none_iff, List.find?_eq_none, checks, List.forall_mem_cons,
    List.not_mem_nil, false_imp_iff, implies_true, and_true, Bool.not_eq_true, decide_eq_false_iff_not,
    Option.isNone_eq_false_iff, Option.isSome_iff_exists, Bool.not_eq_false', lease_fits_iff]
  constructor
  · rintro ⟨h4, hf, ⟨start, ha⟩, ⟨stop, hb⟩, hlt, hn, ⟨ns, hd⟩, hk, hr, hl, hm⟩
    simp only [ha, hb, hd, Option.getD_some] at hlt hn hk
    have hc : config args w = ⟨args.getD 0 "", start, stop, goRoundSecond ns⟩ := by
      simp only [config, ha, hb, hd, Option.getD_some]
    rw [hc]
    exact ⟨Nat.le_of_not_lt h4, rfl, hf, ha, hb, Nat.lt_of_not_le hlt, hn, ⟨ns, hd, rfl⟩, hk.1, hk.2, hr, hl, hm⟩
  · intro A
    obtain ⟨ns, hd, -⟩ := A.dur
    refine ⟨Nat.not_lt.2 A.len, A.file_ne, ⟨_, A.start⟩, ⟨_, A.stop⟩, Nat.not_le.2 A.lt, ?_, ⟨ns, hd⟩,
      ⟨A.lease_nonneg, A.lease_le⟩, A.register, A.loadOk, A.remarkOk⟩
    rw [A.start, A.stop]
    exact A.alloc

theorem RangeSetup.accepted_of_handler {args : List String} {w : World} {c : Config}
    (h : (GenRangeSetup.setupRange args w).handler = some c) : Accepted args w c := by
  rw [GenRangeSetup.setupRange_eq] at h
  cases hff : firstFailure args w with
  | some e => rw [hff] at h; cases h
  | none =>
    rw [hff] at h
    cases h
    exact (firstFailure_eq_none_iff args w).1 hff

/-- `setupRange` returns a nil error EXACTLY when every test passes (spelled out on the arguments), and whenever it
returns an error, that error is the one of the FIRST test, in source order, that fails (`firstFailure` walks `checks`). -/
theorem RANGESETUP_accepts_iff (args : List String) (w : World) :
    ((GenRangeSetup.setupRange args w).err = none ↔
      ∃ file a b d rest start stop ns, args = file :: a :: b :: d :: rest ∧ file ≠ "" ∧
        w.ip4 a = some start ∧ w.ip4 b = some stop ∧ start.toNat < stop.toNat ∧
        w.newAlloc (some start) (some stop) = true ∧ w.duration d = some ns ∧
        0 ≤ goRoundSecond ns ∧ goRoundSecond ns ≤ 4294967295 * nsPerSec ∧
        w.register file = true ∧ w.loadOk = true ∧ w.remarkOk = true) ∧
    (GenRangeSetup.setupRange args w).err = firstFailure args w := by
  rw [GenRangeSetup.err_eq, firstFailure_eq_none_iff]
  refine ⟨⟨fun A => ?_, ?_⟩, rfl⟩
  · obtain ⟨file, a, b, d, rest, rfl⟩ := eq_cons4_of_four_le_length args A.len
    obtain ⟨ns, hd, hl⟩ := A.dur
    exact ⟨file, a, b, d, rest, _, _, ns, rfl, A.file_ne, A.start, A.stop, A.lt, A.alloc, hd, hl ▸ A.lease_nonneg,
      hl ▸ A.lease_le, A.register, A.loadOk, A.remarkOk⟩
  · rintro ⟨file, a, b, d, rest, start, stop, ns, rfl, hf, ha, hb, hlt, hn, hd, hk0, hk1, hr, hl, hm⟩
    have hc : config (file :: a :: b :: d :: rest) w = ⟨file, start, stop, goRoundSecond ns⟩ := by
      simp only [config, List.getD_cons_zero, List.getD_cons_succ, ha, hb, hd, Option.getD_some]
    rw [hc]
    exact ⟨Nat.le_add_left 4 _, rfl, hf, ha, hb, hlt, hn, ⟨ns, hd, rfl⟩, hk0, hk1, hr, hl, hm⟩

/-- acceptance with the arguments as a list pattern (`Accepted` says the same on `args.getD k`) -/
theorem RangeSetup.setup_handler (args : List String) (w : World) (c : Config)
    (h : (GenRangeSetup.setupRange args w).handler = some c) :
    ∃ file a b d rest ns, args = file :: a :: b :: d :: rest ∧ file ≠ "" ∧ w.ip4 a = some c.start ∧ w.ip4 b = some c.stop ∧
      c.start.toNat < c.stop.toNat ∧ w.newAlloc (some c.start) (some c.stop) = true ∧ w.duration d = some ns ∧
      0 ≤ goRoundSecond ns ∧ goRoundSecond ns ≤ 4294967295000000000 ∧
      w.register file = true ∧ w.loadOk = true ∧ w.remarkOk = true ∧ c = ⟨file, c.start, c.stop, goRoundSecond ns⟩ := by
  have A := accepted_of_handler h
  obtain ⟨file, a, b, d, rest, rfl⟩ := eq_cons4_of_four_le_length args A.len
  obtain ⟨ns, hd, hl⟩ := A.dur
  have hfile : c.file = file := A.file
  have hc : c = ⟨file, c.start, c.stop, goRoundSecond ns⟩ := by rw [← hfile, ← hl]
  -- this statement spells the bound as the literal of `setupRange`
  have hle : goRoundSecond ns ≤ 4294967295000000000 := hl ▸ A.lease_le
  exact ⟨file, a, b, d, rest, ns, rfl, hfile ▸ A.file_ne, A.start, A.stop, A.lt, A.alloc, hd, hl ▸ A.lease_nonneg, hle,
    hfile ▸ A.register, A.loadOk, A.remarkOk, hc⟩

-- the first failing test wins: an empty file name AND a bad address AND a bad duration is reported as the empty file name
example : (GenRangeSetup.setupRange ["", "x", "10.0.0.9", "soon"] okWorld).err = some .emptyFileName := by decide +kernel
example : (GenRangeSetup.setupRange ["f", "x", "y", "soon"] okWorld).err = some (.notIPv4 1) := by decide +kernel
-- the duration is looked at only after the allocator was made, the database only after the duration
example : (GenRangeSetup.setupRange ["f", "10.0.0.1", "10.0.0.9", "soon"] { okWorld with newAlloc := fun _ _ => false, register := fun _ => false }).err
    = some .allocator := by decide +kernel
example : (GenRangeSetup.setupRange ["f", "10.0.0.1", "10.0.0.9", "soon"] { okWorld with register := fun _ => false }).err
    = some .badDuration := by decide +kernel

/-- which argument plays which role: the handler's state has the database of the FIRST argument, an allocator over
[second argument, third argument] (each through `net.ParseIP(·).To4()`), and the lease time parsed from the FOURTH -/
theorem RANGESETUP_argument_roles (args : List String) (w : World) (c : Config)
    (h : (GenRangeSetup.setupRange args w).handler = some c) :
    4 ≤ args.length ∧ c.file = args.getD 0 "" ∧ w.ip4 (args.getD 1 "") = some c.start ∧
    w.ip4 (args.getD 2 "") = some c.stop ∧ (w.duration (args.getD 3 "")).map goRoundSecond = some c.lease ∧
    w.register c.file = true ∧ w.newAlloc (some c.start) (some c.stop) = true := by
  have A := accepted_of_handler h
  obtain ⟨ns, hd, hl⟩ := A.dur
  have hlease : (w.duration (args.getD 3 "")).map goRoundSecond = some c.lease := by
    rw [hd, hl]
    rfl
  exact ⟨A.len, A.file, A.start, A.stop, hlease, A.register, A.alloc⟩

/-- an accepted configuration is a proper range: start < end.  This is the guard of `RState.setup` (Model/Range.lean)
and the requirement of `A4.new` (Model/Alloc4.lean): for accepted arguments the model's allocator exists, and
`RState.setup` never answers `.badRange`, whatever the lease table, the key loader and the iteration order are -/
theorem RANGESETUP_range_wellformed (args : List String) (w : World) (c : Config)
    (h : (GenRangeSetup.setupRange args w).handler = some c) :
    c.start.toNat < c.stop.toNat ∧
    A4.new (some c.start) (some c.stop) = .ok ⟨c.start, c.stop, Bits.new (A4.size c.start c.stop)⟩ ∧
    ∀ lease db loadKey order, RState.setup c.start c.stop lease db loadKey order ≠ .error .badRange := by
  have hlt := (accepted_of_handler h).lt
  have hnew := A4.new_eq_ok c.start c.stop (Nat.le_of_lt hlt)
  refine ⟨hlt, hnew, ?_⟩
  intro lease db loadKey order
  unfold RState.setup
  rw [if_neg (Nat.not_le.2 hlt), hnew]
  cases loadRecords loadKey db with
  | none => simp
  | some recs =>
    simp only
    cases remark _ (order recs) <;> simp

-- the guard is needed: the reversed range IS `.badRange` for the handler model, and `setupRange` refuses it
example : RState.setup 0x0a000009#32 0x0a000001#32 0 [] some id = .error .badRange := by simp [RState.setup]

/-- a range of ONE address cannot be configured: equal start and end are refused (`>=`, not `>`), although the
allocator itself (`A4.new`) accepts start = end.  A fact of the code. -/
theorem RANGESETUP_one_address_range_rejected (file a b d : String) (rest : List String) (w : World) (x : BitVec 32)
    (hf : file ≠ "") (ha : w.ip4 a = some x) (hb : w.ip4 b = some x) :
    GenRangeSetup.setupRange (file :: a :: b :: d :: rest) w = ⟨none, some .badRange⟩ ∧
    ∃ al, A4.new (some x) (some x) = .ok al := by
  rw [GEN_rangesetup_setup_eq]
  constructor
  · -- the tests before the range test pass; `x ≥ x` fires it
    simp only [RangeSetup.setup, RangeSetup.fail, hf, ha, hb, if_false, ge_iff_le, Nat.le_refl, if_true]
  · exact ⟨_, A4.new_eq_ok x x (Nat.le_refl _)⟩

example : GenRangeSetup.setupRange ["f", "10.0.0.9", "10.0.0.9", "1h"] okWorld = ⟨none, some .badRange⟩ := by decide +kernel
-- the same address in its two spellings is the same address
example : GenRangeSetup.setupRange ["f", "10.0.0.9", "::ffff:10.0.0.9", "1h"] okWorld = ⟨none, some .badRange⟩ := by decide +kernel

/-- Go's rounding of a duration that is not negative is `keptLease` of Model/Range.lean -/
theorem RangeSetup.goRoundSecond_of_nonneg (d : Int) (h : 0 ≤ d) : goRoundSecond d = keptLease d :=
  if_neg (Int.not_lt.2 h)

/-- Go's rounding is `keptLease` whenever its result is not negative (the parsed duration may be a little below
zero: it is more than −0.5 s then, and both roundings give 0) -/
theorem RangeSetup.goRoundSecond_of_accepted (d : Int) (h : 0 ≤ goRoundSecond d) : goRoundSecond d = keptLease d := by
  unfold goRoundSecond at h ⊢
  split
  · -- a negative `d` rounds to 0 or below: with `h`, to 0, and so does `keptLease`
    rw [if_pos ‹_›] at h
    unfold keptLease unixRound nsPerSec at *
    omega
  · rfl

theorem RangeSetup.goRoundSecond_whole (d : Int) : goRoundSecond d % nsPerSec = 0 := by
  unfold goRoundSecond keptLease
  split
  · rw [← Int.neg_mul]; exact Int.mul_emod_left _ _
  · exact Int.mul_emod_left _ _

-- `time.Duration.Round` rounds halves AWAY FROM ZERO (the real code was run on these four values)
example : goRoundSecond (-500000000) = -1000000000 := by decide +kernel
example : goRoundSecond (-499999999) = 0 := by decide +kernel
example : goRoundSecond 4294967295499999999 = 4294967295000000000 := by decide +kernel
example : goRoundSecond 4294967295500000000 = 4294967296000000000 := by decide +kernel
-- … where `keptLease` alone would round −0.5 s up to 0
example : keptLease (-500000000) = 0 := by decide
-- and the set-up decides accordingly: −0.5 s refused, −0.499999999 s a lease of zero, the largest lease is 2^32 − 1 s
example : GenRangeSetup.setupRange ["f", "10.0.0.1", "10.0.0.9", "-500ms"] okWorld = ⟨none, some .leaseOutOfRange⟩ := by decide +kernel
example : (GenRangeSetup.setupRange ["f", "10.0.0.1", "10.0.0.9", "-499999999ns"] okWorld).handler.map (·.lease) = some 0 := by decide +kernel
example : (GenRangeSetup.setupRange ["f", "10.0.0.1", "10.0.0.9", "4294967295499999999ns"] okWorld).handler.map (·.lease)
    = some 4294967295000000000 := by decide +kernel
example : GenRangeSetup.setupRange ["f", "10.0.0.1", "10.0.0.9", "4294967295500ms"] okWorld = ⟨none, some .leaseOutOfRange⟩ := by decide +kernel

/-- the lease time the handler's state carries is the parsed duration rounded as Go rounds it, which — because the
set-up refuses a negative result — is `keptLease` of the parsed duration (the value `RState.lease` stands for in
Model/Range.lean): a whole number of seconds, at least 0 and at most 2^32 − 1 seconds -/
theorem RANGESETUP_lease_is_kept_lease (args : List String) (w : World) (c : Config)
    (h : (GenRangeSetup.setupRange args w).handler = some c) :
    ∃ ns, w.duration (args.getD 3 "") = some ns ∧ c.lease = goRoundSecond ns ∧ c.lease = keptLease ns ∧
      c.lease % nsPerSec = 0 ∧ 0 ≤ c.lease ∧ c.lease ≤ 4294967295 * nsPerSec := by
  have A := accepted_of_handler h
  obtain ⟨ns, hd, hl⟩ := A.dur
  refine ⟨ns, hd, hl, ?_, ?_, A.lease_nonneg, A.lease_le⟩
  · rw [hl]; exact RangeSetup.goRoundSecond_of_accepted ns (hl ▸ A.lease_nonneg)
  · exact hl ▸ RangeSetup.goRoundSecond_whole ns

/-- D21: an accepted lease fits the wire, from acceptance alone: the lease time is a whole number of seconds from 0 to
2^32 − 1, so option 51 (`leaseOpt`) is lease / 1 s without wrap; what is announced, times one second, IS the duration the
stored expiry is computed from (`RState.handle`: `unixFloor (now + lease)`); and the conclusions of
`C03_promise_is_kept_lease` hold for it, including at the upper bound, which that theorem's strict hypothesis leaves out -/
theorem RANGESETUP_accepted_lease_fits_wire (args : List String) (w : World) (c : Config)
    (h : (GenRangeSetup.setupRange args w).handler = some c) :
    c.lease % nsPerSec = 0 ∧ 0 ≤ c.lease / nsPerSec ∧ c.lease / nsPerSec ≤ 4294967295 ∧
    (leaseOpt c.lease : Int) = c.lease / nsPerSec ∧
    (leaseOpt c.lease : Int) * nsPerSec = c.lease ∧
    keptLease c.lease = c.lease ∧
    (leaseOpt (keptLease c.lease) : Int) * nsPerSec = keptLease c.lease ∧
    ∀ now, unixFloor (now + c.lease) = unixFloor now + leaseOpt c.lease := by
  obtain ⟨ns, -, -, -, hmod, h0, h1⟩ := RANGESETUP_lease_is_kept_lease args w c h
  -- the lease is `k` whole seconds; each clause is a fact about `k * nsPerSec`
  have hw := eq_mul_of_emod_nsPerSec c.lease hmod
  generalize c.lease / nsPerSec = k at hw
  rw [hw] at h0 h1
  have hpos : (0 : Int) < nsPerSec := by decide
  have hk0 : 0 ≤ k := Int.nonneg_of_mul_nonneg_left h0 hpos
  have hk1 : k ≤ 4294967295 := Int.le_of_mul_le_mul_right h1 hpos
  rw [hw, keptLease_mul, leaseOpt_mul k hk0 (Int.lt_of_le_of_lt hk1 (by decide))]
  exact ⟨Int.mul_emod_left _ _, hk0, hk1, rfl, rfl, rfl, rfl, fun now => unixFloor_add_mul now k⟩

-- 1500 ms is kept as 2 s, which is what option 51 says
example : (GenRangeSetup.setupRange ["f", "10.0.0.1", "10.0.0.9", "1500ms"] okWorld).handler.map (·.lease) = some 2000000000 := by decide +kernel
example : leaseOpt 2000000000 = 2 := by decide
-- the two failing inputs of D21 are now REFUSED
example : GenRangeSetup.setupRange ["f", "10.0.0.1", "10.0.0.9", "-1h"] okWorld = ⟨none, some .leaseOutOfRange⟩ := by decide +kernel
example : GenRangeSetup.setupRange ["f", "10.0.0.1", "10.0.0.9", "1193047h"] okWorld = ⟨none, some .leaseOutOfRange⟩ := by decide +kernel
-- D21, the counter-example: the set-up BEFORE the repair (`setupOld`: the same function without the test) accepted "-1h";
-- the client was then promised 4294963696 s while the stored expiry is computed from −3600 s (one hour in the past) …
example : (RangeSetup.setupOld ["f", "10.0.0.1", "10.0.0.9", "-1h"] okWorld).handler.map (·.lease) = some (-3600000000000) := by decide +kernel
example : leaseOpt (-3600000000000) = 4294963696 ∧ (leaseOpt (-3600000000000) : Int) * nsPerSec ≠ -3600000000000 := by
  refine ⟨by decide, by decide⟩
-- … and "1193047h" (more than 2^32 s) was announced modulo 2^32: 1904 s
example : (RangeSetup.setupOld ["f", "10.0.0.1", "10.0.0.9", "1193047h"] okWorld).handler.map (·.lease) = some 4294969200000000000 := by decide +kernel
example : leaseOpt 4294969200000000000 = 1904 := by decide
-- the old and the new set-up differ ONLY there; e.g. on an accepted input they agree
example : RangeSetup.setupOld ["f", "10.0.0.1", "10.0.0.9", "1h"] okWorld = GenRangeSetup.setupRange ["f", "10.0.0.1", "10.0.0.9", "1h"] okWorld := by decide +kernel

/-- arguments beyond the fourth do not influence the result -/
theorem RANGESETUP_extra_args_ignored (file a b d : String) (rest : List String) (w : World) :
    GenRangeSetup.setupRange (file :: a :: b :: d :: rest) w = GenRangeSetup.setupRange [file, a, b, d] w := by
  rw [GEN_rangesetup_setup_eq, GEN_rangesetup_setup_eq]
  rfl

example : GenRangeSetup.setupRange ["leases.db", "10.0.0.1", "10.0.0.9", "1h", "autorefresh", ""] okWorld
    = GenRangeSetup.setupRange ["leases.db", "10.0.0.1", "10.0.0.9", "1h"] okWorld := by rfl

/-- the registered plugin is named "range", has no DHCPv6 set-up, and its DHCPv4 set-up is the
`setupRange` of `GEN_rangesetup_setup_eq` -/
theorem RANGESETUP_plugin_decl :
    GenRangeSetup.plugin.name = "range" ∧ GenRangeSetup.plugin.setup6 = none ∧ GenRangeSetup.plugin.setup4 = some .setupRange := by
  rw [GEN_rangesetup_plugin_eq]
  exact ⟨rfl, rfl, rfl⟩

/-- when the allocator is the one of Model/Alloc4.lean, the error "could not create an allocator" is never returned:
the range test before it has established what `A4.new` asks for -/
theorem RANGESETUP_allocator_never_refuses (args : List String) (w : World)
    (hw : ∀ a b, w.newAlloc a b = match A4.new a b with | .ok _ => true | .error _ => false) :
    (GenRangeSetup.setupRange args w).err ≠ some .allocator := by
  rw [GenRangeSetup.err_eq]
  intro h
  -- the first failure is the allocator's: the tests before it pass and its own fails
  simp only [firstFailure, checks, find_cons_eq_some, reduceCtorEq, and_false, false_or, and_true,
    List.find?_nil, Option.map_none, or_false] at h
  obtain ⟨-, -, ha, hb, hlt, hn⟩ := h
  cases hs : w.ip4 (args.getD 1 "") with
  | none => rw [hs] at ha; cases ha
  | some s =>
    cases ht : w.ip4 (args.getD 2 "") with
    | none => rw [ht] at hb; cases hb
    | some t =>
      rw [hs, ht] at hlt hn
      rw [hw, A4.new_eq_ok s t (Nat.le_of_not_le (of_decide_eq_false hlt))] at hn
      cases hn

/-- With the allocator, the record loader and the re-marking loop of the models
(`World.ofModel`, on the lease table `db`), an accepted argument list yields a configuration `c` for which
`RState.setup c.start c.stop c.lease db loadKey order` is `.ok s0` — the hypothesis `hs0` of `C02_holds` and
`C03_holds` — and the state carries the lease time of the configuration -/
theorem RANGESETUP_accepted_starts_handler (args : List String) (ip4 : String → Option (BitVec 32))
    (duration : String → Option Int) (db : List Row) (loadKey : Mac → Option Mac)
    (order : List (Mac × Rec) → List (Mac × Rec)) (c : Config)
    (h : (GenRangeSetup.setupRange args (World.ofModel ip4 duration db loadKey order c.start c.stop)).handler = some c) :
    ∃ s0, RState.setup c.start c.stop c.lease db loadKey order = .ok s0 ∧ s0.lease = c.lease ∧ s0.db = db ∧
      s0.alloc.start = c.start ∧ s0.alloc.stop = c.stop := by
  have A := accepted_of_handler h
  have hl := A.loadOk
  have hm := A.remarkOk
  simp only [World.ofModel, A4.new_eq_ok c.start c.stop (Nat.le_of_lt A.lt)] at hl hm
  cases hrec : loadRecords loadKey db with
  | none => rw [hrec] at hl; cases hl
  | some recs =>
    simp only [hrec] at hm
    cases hrm : remark ⟨c.start, c.stop, Bits.new (A4.size c.start c.stop)⟩ (order recs) with
    | none => rw [hrm] at hm; cases hm
    | some a' =>
      exact ⟨_, setup_eq c.start c.stop c.lease db loadKey order recs a' A.lt hrec hrm, rfl, rfl,
        remark_keeps_bounds _ _ _ hrm⟩

/-- A first start (empty lease table) with accepted arguments: every history of requests
and restarts of the handler state it yields satisfies the monitors of C02 (addresses in the configured range, one client
per address, stable per client) and C03 (restart restores the bindings) FOR THE CONFIGURED RANGE AND LEASE TIME -/
theorem RANGESETUP_accepted_serves_C02_C03 (args : List String) (ip4 : String → Option (BitVec 32))
    (duration : String → Option Int) (loadKey : Mac → Option Mac) (order : List (Mac × Rec) → List (Mac × Rec))
    (hkey : ∀ m, loadKey m = some m) (hperm : ∀ l, (order l).Perm l) (c : Config)
    (h : (GenRangeSetup.setupRange args (World.ofModel ip4 duration [] loadKey order c.start c.stop)).handler = some c) :
    ∃ s0, RState.setup c.start c.stop c.lease [] loadKey order = .ok s0 ∧
      ∀ ops cs evs z, RState.run loadKey order s0 ops cs = some (evs, z) →
        C02.holds ⟨c.start, c.stop, c.lease⟩ evs = true ∧ C03.holds ⟨c.start, c.stop, c.lease⟩ evs = true := by
  obtain ⟨s0, hs0, -⟩ := RANGESETUP_accepted_starts_handler args ip4 duration [] loadKey order c h
  exact ⟨s0, hs0, fun ops cs evs z hrun =>
    ⟨C02_holds c.start c.stop c.lease loadKey order hkey hperm s0 hs0 ops cs evs z hrun,
     C03_holds c.start c.stop c.lease loadKey order hkey hperm s0 hs0 ops cs evs z hrun⟩⟩

end CoreDhcp
