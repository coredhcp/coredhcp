/-
GEN (decision logic of `serverid.Handler6`) — the definition regenerated from the Go source on every run
(Generated/ServerID6.lean, written by `harness gen -unit serverid6` from the go/ast of
plugins/serverid/plugin.go) is equal to the specification of C14 (`C14.mustDiscard6`, RFC 8415 §16) and to
the hand-written model of the handler (`Plug.serverid6.handle`).

`Generated.sidDecision` takes ATOMS (what the Go conditions test) as arguments; the theorems below instantiate
them with their meaning in the model: `mt` = `req.mt`, `hasSid` = the first option 2 is present
(`(lookup 2 req.opts).isSome`), `sidEqual` = it equals the configured DUID.

An edit of the Go decision logic changes the generated text, makes the statements below false and breaks this
file (or is rejected by the translator); a renamed local or reformatted source generates the same text.
-/
import CoreDhcp.Generated.ServerID6
import CoreDhcp.Proofs.OptPlug
namespace CoreDhcp

/-- the generated decision against the specification of C14 (RFC 8415 §16), for every message type -/
theorem GEN_sidDecision_spec (mt : Nat) (rel : C14.Rel) :
    C14.mustDiscard6 mt rel = Generated.sidDecision mt (rel != .absent) (rel == .same) := by
  have ite_bool : ∀ b : Bool, (if b = true then true else false) = b := fun b => by cases b <;> rfl
  cases rel <;> simp only [C14.mustDiscard6, Generated.sidDecision]
  · rw [if_neg (by decide), ite_bool]
    simp only [Bool.or_assoc, Bool.or_comm (mt == 9)]  -- the code tests 3, 5, 9, 8; the RFC table lists 3, 5, 8, 9
  · rw [if_pos (by decide), if_neg (by decide : ¬ (!C14.Rel.same == C14.Rel.same) = true), ite_bool]
  · rw [if_pos (by decide), if_pos (by decide : (!C14.Rel.other == C14.Rel.same) = true), ite_self]

/-- the same as a table: all 256 message types × the three relations -/
theorem GEN_sidDecision_table :
    (List.range 256).all (fun t => [C14.Rel.absent, .same, .other].all (fun rel =>
      C14.mustDiscard6 t rel == Generated.sidDecision t (rel != .absent) (rel == .same))) = true :=
  List.all_eq_true.mpr fun t _ => List.all_eq_true.mpr fun rel _ => beq_iff_eq.mpr (GEN_sidDecision_spec t rel)

theorem GEN_sidDecision_all (t : Nat) (ht : t < 256) (rel : C14.Rel) :
    C14.mustDiscard6 t rel = Generated.sidDecision t (rel != .absent) (rel == .same) := GEN_sidDecision_spec t rel

/-- on a request: with `hasSid` / `sidEqual` read off the first Server Identifier option, the
generated decision is the specification's `mustDiscard6` of the relation `rel6`. -/
theorem GEN_sidDecision_rel6 (duid : Plug.Bytes) (req : Plug.ReqView6) :
    C14.mustDiscard6 req.mt (C14.rel6 duid req) =
      Generated.sidDecision req.mt (Plug.lookup 2 req.opts).isSome (Plug.lookup 2 req.opts == some duid) := by
  rw [GEN_sidDecision_spec, rel6_eq]
  cases Plug.lookup 2 req.opts with
  | none => rfl
  | some sid =>
    by_cases hs : sid = duid
    · subst hs
      simp only [if_true, Option.isSome_some, beq_self_eq_true]
      rfl
    · have hne : (some sid == some duid) = false := beq_eq_false_iff_ne.mpr fun e => hs (Option.some.inj e)
      simp only [hs, if_false, Option.isSome_some, hne]
      rfl

/-- against the model of the handler: it discards exactly when the generated decision says so,
and otherwise stamps the response. -/
theorem GEN_sidDecision_model (cfg : Plug.Bytes) (req : Plug.ReqView6) (pre : Plug.Resp6) :
    Plug.serverid6.handle cfg req pre =
      if Generated.sidDecision req.mt (Plug.lookup 2 req.opts).isSome (Plug.lookup 2 req.opts == some cfg)
      then (none, true) else (some (pre.update 2 cfg), false) := by
  rw [serverid6_handle_eq, GEN_sidDecision_rel6]

end CoreDhcp
