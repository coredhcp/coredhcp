/-
C10 — Static lease file: served mapping equals the file, updates are all-or-nothing.
-/
import CoreDhcp.Proofs.File
namespace CoreDhcp

/-- Every history of set-ups, file rewrites picked up under autorefresh (well-formed or not) and
queries, for both protocols in any order: every answer is the address the file currently in force
lists for that hardware address (last occurrence wins; DHCPv4: yiaddr + stop; DHCPv6: in an IA_NA
when one was requested and a MAC could be extracted), unlisted clients get nothing, a file is
accepted exactly when all its lines are well-formed. -/
theorem C10_holds (ops : List FOp) : C10.holds (FState.run {} ops) = true :=
  FileAux.run_ok ops {} {} ⟨fun _ => rfl, fun _ => rfl⟩

theorem C10_accept_iff_wellformed (v6 : Bool) (lines : List FLine) :
    (loadFile v6 lines []).isSome = fileOk v6 lines := FileAux.loadFile_isSome v6 lines []

theorem C10_mapping_is_file (v6 : Bool) (lines : List FLine) (t : FTable)
    (h : loadFile v6 lines [] = some t) : ∀ m, t.get m = listedFor m lines := FileAux.loadFile_map v6 lines t h

/-- a malformed update leaves the previous mapping in force -/
theorem C10_all_or_nothing (s : FState) (v6 : Bool) (lines : List FLine) (h : fileOk v6 lines = false) :
    (s.load v6 lines) = (s, false) := by
  cases hl : loadFile v6 lines [] with
  | none => exact FileAux.load_of_none s hl
  | some t => rw [← FileAux.loadFile_isSome v6 lines [], hl] at h; cases h

/-- the DHCPv4 and DHCPv6 instances each serve from their own file -/
theorem C10_own_file (s : FState) (v6 : Bool) (lines : List FLine) :
    (s.load v6 lines).1.table (!v6) = s.table (!v6) := by
  cases h : loadFile v6 lines [] with
  | none => rw [FileAux.load_of_none s h]
  | some t => rw [FileAux.load_of_some s h]; exact FileAux.table_setTable_not s v6 t

/-- D8 (repaired by a `fix:` commit): with the single shared table of the code before the repair,
setting up DHCPv4 after DHCPv6 replaced what DHCPv6 served. One table, as it was: -/
theorem C10_D8_prefix_refuted :
    let f6 := [FLine.fields 2 (some [1,2,3,4,5,6]) (.v6 ⟨0x20010db800000000#64, 5#64⟩)]
    let f4 := [FLine.fields 2 (some [1,2,3,4,5,6]) (.v4 0x0a000005#32)]
    -- shared table: the table loaded last is the one both protocols read
    (loadFile false f4 []).bind (fun shared => shared.get [1,2,3,4,5,6]) = some (.v4 0x0a000005#32) ∧
    listedFor [1,2,3,4,5,6] f6 = some (.v6 ⟨0x20010db800000000#64, 5#64⟩) :=
  ⟨rfl, rfl⟩

end CoreDhcp
