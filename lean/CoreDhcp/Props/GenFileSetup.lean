/-
GEN (set-up of the static-lease plugin).  Generated/FileSetup.lean is written by `harness gen -unit filesetup` from the
go/ast of plugins/file/plugin.go: `setupFile`, the body of its refresh goroutine for one event, `setup4` / `setup6`.  The
statements say that they equal the model (Model/FileSetup.lean) and prove about the GENERATED definitions what C10 relies
on: the mapping served is the one of the configured file; with `autorefresh` a later well-formed version of the
configured file replaces it, a malformed one leaves it as it is.

What `loadFromFile` and the handlers do is unit `fileplugin` (Props/GenFilePlugin.lean); here `load b s` is the answer of
`loadFromFile(b, s)` as a function of its two arguments, so the statements say WHICH file is loaded for WHICH protocol.
The watch is on the file, not on the name: the event loop looks at one thing of an event (removed or renamed?) and then
watches the configured name again before it reloads; the code before that repair is `FileSetup.onEventOld`.
-/
import CoreDhcp.Generated.FileSetup
import CoreDhcp.Proofs.File
namespace CoreDhcp
open FileSetup

/-- generated `setupFile` = the model's `setup`, for all arguments and all answers of the calls it makes; the initial
load is `loadFromFile(v6, args[0])` and the watcher is given `args[0]` -/
theorem GEN_filesetup_setup_eq (v6 : Bool) (args : List String) (load : Bool → String → Bool) (newWatcherOk : Bool)
    (add : String → Bool) :
    GenFileSetup.setupFile v6 args load newWatcherOk add =
      FileSetup.setup v6 args (load v6 (args.headD "")) newWatcherOk (add (args.headD "")) := by
  cases args with
  | nil => rfl
  | cons f rest =>
    have h0 : ¬ (f :: rest).length < 1 := Nat.not_lt.mpr (Nat.succ_pos _)
    -- `len(args) > 1 && args[1] == a`, read off the tail
    have h1 : ∀ a, ((f :: rest).length > 1 ∧ (f :: rest).getD 1 "" = a) ↔ rest.head? = some a := by
      cases rest <;> simp
    simp only [GenFileSetup.setupFile, FileSetup.setup, if_neg h0, h1, autoRefreshArg, List.getD_cons_zero,
      List.headD_cons, Bool.not_eq_true']

example : GenFileSetup.setupFile true ["leases.txt", "autorefresh"] (fun _ _ => true) true (fun _ => true)
    = .ok (some "leases.txt") .own4 .own6 := by decide +kernel
example : GenFileSetup.setupFile false ["leases.txt"] (fun _ _ => true) false (fun _ => false) = .ok none .own4 .own6 := by decide +kernel
example : GenFileSetup.setupFile false [] (fun _ _ => true) true (fun _ => true) = .argErr .noFileName := by decide
example : GenFileSetup.setupFile false ["", "autorefresh"] (fun _ _ => true) true (fun _ => true) = .argErr .emptyFileName := by decide
-- the load is asked for THIS protocol and THIS file
example : GenFileSetup.setupFile true ["a", "autorefresh"] (fun b s => b && s == "a") true (fun _ => true)
    = .ok (some "a") .own4 .own6 := by decide +kernel
example : GenFileSetup.setupFile false ["a", "autorefresh"] (fun b s => b && s == "a") true (fun _ => true) = .loadErr := by decide

/-- generated body of the event loop = the model's `onEvent`: one reload of `(v6, args[0])` for EVERY event; an event
that says the file was removed or renamed (`fsnotify.Remove` = 4, `fsnotify.Rename` = 8, values read from the fsnotify
source) makes the goroutine watch `args[0]` again before that reload — and what the `Add` of the re-watch answers
(`readd`) changes nothing: its error is only logged -/
theorem GEN_filesetup_refresh_eq (v6 : Bool) (args : List String) (load : Bool → String → Bool) (readd : String → Bool)
    (ev : Event) :
    GenFileSetup.onEvent v6 args load readd ev =
      FileSetup.onEvent v6 (args.headD "") (load v6 (args.headD "")) ev := by
  have hf : args.getD 0 "" = args.headD "" := by cases args <;> rfl
  have hrep : (ev.has 4 = true ∨ ev.has 8 = true) ↔ ev.replaced = true := (Bool.or_eq_true ..).symm.to_iff
  simp only [GenFileSetup.onEvent, FileSetup.onEvent, hf, hrep]
  -- the two answers of the re-watch lead to the same reload
  simp only [ite_self]
  cases load v6 (args.headD "") <;> cases ev.replaced <;> rfl

-- a Write (2) of a malformed version: nothing but the failed reload
example : GenFileSetup.onEvent true ["leases.txt", "autorefresh"] (fun _ _ => false) (fun _ => true) ⟨2, "leases.txt"⟩
    = ⟨[(true, "leases.txt")], .keep, .continues, none⟩ := by decide +kernel
-- a Chmod (16) under another name reloads all the same
example : GenFileSetup.onEvent false ["leases.txt", "autorefresh"] (fun _ _ => true) (fun _ => true) ⟨16, "other"⟩
    = ⟨[(false, "leases.txt")], .replace, .continues, none⟩ := by decide +kernel
-- a Rename (8), a Remove (4): the name is watched again, and reloaded; also when the re-watch fails
example : GenFileSetup.onEvent false ["leases.txt", "autorefresh"] (fun _ _ => true) (fun _ => true) ⟨8, "leases.txt"⟩
    = ⟨[(false, "leases.txt")], .replace, .continues, some "leases.txt"⟩ := by decide +kernel
example : GenFileSetup.onEvent false ["leases.txt", "autorefresh"] (fun _ _ => true) (fun _ => false) ⟨4, "leases.txt"⟩
    = ⟨[(false, "leases.txt")], .replace, .continues, some "leases.txt"⟩ := by decide +kernel
-- the code before the repair is another function: it never watches again
example : FileSetup.onEventOld false "leases.txt" true ⟨8, "leases.txt"⟩
    ≠ GenFileSetup.onEvent false ["leases.txt", "autorefresh"] (fun _ _ => true) (fun _ => true) ⟨8, "leases.txt"⟩ := by decide +kernel

/-- the two registered functions: `setup6` passes `true` and returns the DHCPv6 side of the pair, `setup4` passes
`false` and returns the DHCPv4 side -/
theorem GEN_filesetup_reg_eq : GenFileSetup.reg6 = FileSetup.reg6 ∧ GenFileSetup.reg4 = FileSetup.reg4 := ⟨rfl, rfl⟩

example : GenFileSetup.reg6.v6 = true ∧ GenFileSetup.reg4.side = .four := by decide

/-- when the set-up succeeds with a goroutine, the path whose events it consumes is `args[0]` verbatim, the second
argument is "autorefresh", the watcher was made and `Add` was given exactly that path; and with
`file "name" autorefresh` a successful set-up always has one -/
theorem FILESETUP_watches_the_configured_name (v6 : Bool) (args : List String) (load : Bool → String → Bool)
    (newWatcherOk : Bool) (add : String → Bool) :
    (∀ w t4 t6, GenFileSetup.setupFile v6 args load newWatcherOk add = .ok (some w) t4 t6 →
      args[0]? = some w ∧ args[1]? = some "autorefresh" ∧ newWatcherOk = true ∧ add w = true ∧ load v6 w = true) ∧
    (∀ f rest w t4 t6, args = f :: "autorefresh" :: rest →
      GenFileSetup.setupFile v6 args load newWatcherOk add = .ok w t4 t6 → w = some f) := by
  rw [GEN_filesetup_setup_eq]
  rcases args with _ | ⟨f, rest⟩
  · exact ⟨fun _ _ _ h => (nomatch h), fun _ _ _ _ _ h => (nomatch h)⟩
  · simp only [setup_eq_ok_iff, List.headD_cons]
    refine ⟨?_, ?_⟩
    · rintro w t4 t6 ⟨-, hl, hw, -, -⟩
      split at hw
      · next ha =>
        obtain ⟨hn, hadd, hw⟩ := hw
        cases hw
        exact ⟨rfl, (second_arg f rest).trans ha, hn, hadd, hl⟩
      · cases hw
    · rintro f' rest' w t4 t6 hargs ⟨-, -, hw, -, -⟩
      cases hargs
      exact (if_pos rfl ▸ hw).2.2

-- a name given through a symbolic link, or with `./` in front, is watched as it was given (not its directory, not
-- its resolved form): the events the goroutine sees are the events of the configured name
example : GenFileSetup.setupFile false ["./link/../leases.txt", "autorefresh"] (fun _ _ => true) true (fun _ => true)
    = .ok (some "./link/../leases.txt") .own4 .own6 := by decide +kernel
-- `Add` is asked about that very path: an oracle that refuses everything else still succeeds, one that refuses it fails
example : GenFileSetup.setupFile false ["dir/leases.txt", "autorefresh"] (fun _ _ => true) true (fun p => p == "dir/leases.txt")
    = .ok (some "dir/leases.txt") .own4 .own6 := by decide +kernel
example : GenFileSetup.setupFile false ["dir/leases.txt", "autorefresh"] (fun _ _ => true) true (fun p => p == "dir")
    = .watchErr := by decide +kernel

/-- EVERY event — whatever its operation bits and its name — makes exactly one reload, of the configured file, for
the protocol of this instance; the mapping is replaced exactly when that reload succeeds; two events differ at most
in whether the name is watched again -/
theorem FILESETUP_every_event_reloads (v6 : Bool) (args : List String) (load : Bool → String → Bool)
    (readd : String → Bool) (ev : Event) :
    (GenFileSetup.onEvent v6 args load readd ev).loads = [(v6, args.headD "")] ∧
    (GenFileSetup.onEvent v6 args load readd ev).refresh = FileSetup.refresh (load v6 (args.headD "")) ∧
    ((GenFileSetup.onEvent v6 args load readd ev).refresh = .replace ↔ load v6 (args.headD "") = true) ∧
    ∀ ev' readd', GenFileSetup.onEvent v6 args load readd' ev' =
      { GenFileSetup.onEvent v6 args load readd ev with
        rewatch := (GenFileSetup.onEvent v6 args load readd' ev').rewatch } := by
  simp only [GEN_filesetup_refresh_eq, FileSetup.onEvent, FileSetup.refresh]
  cases load v6 (args.headD "") <;>
    simp only [Bool.false_eq_true, ↓reduceIte, reduceCtorEq, implies_true, and_self]

-- a Chmod (16) or a Remove (4) reloads like a Write (2); so does an event that carries another name
example : ∀ op ∈ [1, 2, 4, 8, 16],
    (GenFileSetup.onEvent true ["f", "autorefresh"] (fun _ _ => true) (fun _ => true) ⟨op, "g"⟩).refresh = .replace := by
  decide

/-- after a reload that FAILED (and after one that succeeded) the goroutine takes the next event -/
theorem FILESETUP_failed_reload_keeps_watching (v6 : Bool) (args : List String) (load : Bool → String → Bool)
    (readd : String → Bool) (ev : Event) :
    (GenFileSetup.onEvent v6 args load readd ev).after = .continues ∧
    (load v6 (args.headD "") = false →
      (GenFileSetup.onEvent v6 args load readd ev).loads = [(v6, args.headD "")] ∧
      (GenFileSetup.onEvent v6 args load readd ev).refresh = .keep) := by
  rw [GEN_filesetup_refresh_eq]
  exact ⟨rfl, fun h => ⟨rfl, congrArg FileSetup.refresh h⟩⟩

example : (GenFileSetup.onEvent false ["f", "autorefresh"] (fun _ _ => false) (fun _ => false) ⟨2, "f"⟩).after = .continues := by decide

/-- an event that says the watched file was removed or renamed makes the goroutine watch the configured name — the
value the set-up gave to `watcher.Add` — again; any other event leaves the watcher alone; and the reload of that same
event happens all the same (also when the `Add` of the re-watch fails) -/
theorem FILESETUP_replaced_file_is_watched_again (v6 : Bool) (args : List String) (load : Bool → String → Bool)
    (readd : String → Bool) (ev : Event) :
    (ev.replaced = true → (GenFileSetup.onEvent v6 args load readd ev).rewatch = some (args.headD "")) ∧
    (ev.replaced = false → (GenFileSetup.onEvent v6 args load readd ev).rewatch = none) ∧
    (GenFileSetup.onEvent v6 args load readd ev).loads = [(v6, args.headD "")] ∧
    (GenFileSetup.onEvent v6 args load readd ev).refresh = FileSetup.refresh (load v6 (args.headD "")) ∧
    (GenFileSetup.onEvent v6 args load readd ev).after = .continues ∧
    (∀ w t4 t6 nw add, GenFileSetup.setupFile v6 args load nw add = .ok (some w) t4 t6 → ev.replaced = true →
      (GenFileSetup.onEvent v6 args load readd ev).rewatch = some w) := by
  rw [GEN_filesetup_refresh_eq]
  refine ⟨fun h => if_pos h, fun h => if_neg (h ▸ Bool.false_ne_true), rfl, rfl, rfl, ?_⟩
  intro w t4 t6 nw add hs h
  have h0 := ((FILESETUP_watches_the_configured_name v6 args load nw add).1 w t4 t6 hs).1
  rcases args with _ | ⟨f, rest⟩
  · cases h0
  · cases h0
    exact if_pos h

example : (⟨4, "f"⟩ : Event).replaced = true ∧ (⟨8, "f"⟩ : Event).replaced = true ∧ (⟨12, "f"⟩ : Event).replaced = true ∧
    (⟨2, "f"⟩ : Event).replaced = false ∧ (⟨1, "f"⟩ : Event).replaced = false ∧ (⟨16, "f"⟩ : Event).replaced = false := by decide
example : (GenFileSetup.onEvent false ["dir/f", "autorefresh"] (fun _ _ => false) (fun _ => false) ⟨8, "dir/f"⟩).rewatch = some "dir/f" := by
  decide +kernel

/-- the watch over a history of events of the configured file (replacements and in-place changes, in any order), as long
as the `Add` of the re-watch succeeds: every event is delivered and handled, and after each one the goroutine is
watching the file that carries the configured name now -/
theorem FILESETUP_watch_survives_replacements (v6 : Bool) (args : List String) (load : Bool → String → Bool)
    (readd : String → Bool) (history : List Event) :
    FileSetup.watchRun (GenFileSetup.onEvent v6 args load readd) (args.headD "") true true history =
      history.map (fun _ => some true) :=
  watchRun_keeps _ _ (fun ev h => by rw [GEN_filesetup_refresh_eq]; exact if_pos h) history

-- the failing history of the defect — replace, replace (then a write): with the code before the repair only the first
-- event is ever delivered; with the regenerated code all are, and the watch is there after each
example :
    FileSetup.watchRun (FileSetup.onEventOld false "f" true) "f" true true [⟨8, "f"⟩, ⟨8, "f"⟩, ⟨2, "f"⟩]
      = [some false, none, none] ∧
    FileSetup.watchRun (GenFileSetup.onEvent false ["f", "autorefresh"] (fun _ _ => true) (fun _ => true)) "f" true true
      [⟨8, "f"⟩, ⟨8, "f"⟩, ⟨2, "f"⟩] = [some true, some true, some true] := by
  decide
-- what is left: when no file carries the name at the moment of the event (delete, later create) the `Add` of the
-- re-watch fails, its error is logged, and nothing is delivered afterwards
example :
    FileSetup.watchRun (GenFileSetup.onEvent false ["f", "autorefresh"] (fun _ _ => false) (fun _ => false)) "f" false true
      [⟨4, "f"⟩, ⟨1, "f"⟩, ⟨2, "f"⟩] = [some false, none, none] := by
  decide

/-- whenever the set-up succeeds, the DHCPv4 handler it returns serves `DHCPv4Records` and the DHCPv6 handler
`DHCPv6Records` — never `StaticRecords`, the table loaded last; and the handler each registered function passes on
serves the table that the loads made with ITS flag (the initial one and every refresh) fill -/
theorem FILESETUP_serves_own_table (v6 : Bool) (args : List String) (load : Bool → String → Bool) (newWatcherOk : Bool)
    (add : String → Bool) :
    (∀ w t4 t6, GenFileSetup.setupFile v6 args load newWatcherOk add = .ok w t4 t6 →
      t4 = .own4 ∧ t6 = .own6 ∧ t4 ≠ .last ∧ t6 ≠ .last) ∧
    (∀ r, r = GenFileSetup.reg4 ∨ r = GenFileSetup.reg6 → ∀ t,
      (GenFileSetup.setupFile r.v6 args load newWatcherOk add).served r.side = some t → t = Table.loadedBy r.v6) := by
  have key : ∀ (b : Bool) w t4 t6, GenFileSetup.setupFile b args load newWatcherOk add = .ok w t4 t6 →
      t4 = .own4 ∧ t6 = .own6 := by
    intro b w t4 t6 h
    rw [GEN_filesetup_setup_eq] at h
    rcases args with _ | ⟨f, rest⟩
    · cases h
    · exact ((setup_eq_ok_iff ..).mp h).2.2.2
  refine ⟨?_, ?_⟩
  · intro w t4 t6 h
    obtain ⟨rfl, rfl⟩ := key v6 w t4 t6 h
    exact ⟨rfl, rfl, Table.noConfusion, Table.noConfusion⟩
  · rintro r (rfl | rfl) t h
    all_goals
      cases ho : GenFileSetup.setupFile _ args load newWatcherOk add with
      | ok w t4 t6 =>
        obtain ⟨rfl, rfl⟩ := key _ w t4 t6 ho
        rw [ho] at h
        exact (Option.some.inj h).symm
      | _ => rw [ho] at h; cases h

example : (GenFileSetup.setupFile GenFileSetup.reg4.v6 ["f"] (fun _ _ => true) true (fun _ => true)).served GenFileSetup.reg4.side
    = some .own4 := by decide
example : (GenFileSetup.setupFile GenFileSetup.reg6.v6 ["f", "autorefresh"] (fun _ _ => true) true (fun _ => true)).served GenFileSetup.reg6.side
    = some .own6 := by decide +kernel
-- what "the table loaded last" would serve: after DHCPv6 was set up last, a DHCPv4 handler on `.last` reads the DHCPv6 table
example : Table.read .last ⟨[([1], .v4 1#32)], [([1], .v6 ⟨0#64, 2#64⟩)]⟩ true ≠ Table.read .own4 ⟨[([1], .v4 1#32)], [([1], .v6 ⟨0#64, 2#64⟩)]⟩ true := by
  decide

/-- unless the second argument is exactly "autorefresh", no watcher is made: the result does not depend on what
`NewWatcher` and `Add` would answer, is none of their errors, and a successful set-up has no goroutine -/
theorem FILESETUP_no_autorefresh_no_watcher (v6 : Bool) (args : List String) (load : Bool → String → Bool)
    (newWatcherOk : Bool) (add : String → Bool) (h : args[1]? ≠ some "autorefresh") :
    (∀ nw' add', GenFileSetup.setupFile v6 args load nw' add' = GenFileSetup.setupFile v6 args load newWatcherOk add) ∧
    GenFileSetup.setupFile v6 args load newWatcherOk add ≠ .watcherErr ∧
    GenFileSetup.setupFile v6 args load newWatcherOk add ≠ .watchErr ∧
    (∀ w t4 t6, GenFileSetup.setupFile v6 args load newWatcherOk add = .ok w t4 t6 → w = none) := by
  simp only [GEN_filesetup_setup_eq]
  rcases args with _ | ⟨f, rest⟩
  · exact ⟨fun _ _ => rfl, SetupOut.noConfusion, SetupOut.noConfusion, fun _ _ _ h => nomatch h⟩
  · have ha : rest.head? ≠ some autoRefreshArg := second_arg f rest ▸ h
    -- the watcher's answers are behind the test that fails
    simp only [List.headD_cons, setup_cons, if_neg ha]
    refine ⟨fun _ _ => trivial, ?_⟩
    by_cases hf : f = ""
    · rw [if_pos hf]; exact ⟨SetupOut.noConfusion, SetupOut.noConfusion, fun _ _ _ => SetupOut.noConfusion⟩
    · rw [if_neg hf]
      cases load v6 f
      · exact ⟨SetupOut.noConfusion, SetupOut.noConfusion, fun _ _ _ => SetupOut.noConfusion⟩
      · exact ⟨SetupOut.noConfusion, SetupOut.noConfusion, fun _ _ _ hs => by cases hs; rfl⟩

example : GenFileSetup.setupFile false ["f", "auto"] (fun _ _ => true) false (fun _ => false) = .ok none .own4 .own6 := by decide +kernel
example : GenFileSetup.setupFile false ["f", "x", "autorefresh"] (fun _ _ => true) false (fun _ => false) = .ok none .own4 .own6 := by decide +kernel

/-- when the initial load of `(v6, args[0])` fails, the set-up returns that error: no handler is returned and,
whatever the watcher calls would answer, none is made (the load comes BEFORE the watcher) -/
theorem FILESETUP_initial_load_error_aborts (v6 : Bool) (f : String) (rest : List String) (load : Bool → String → Bool)
    (newWatcherOk : Bool) (add : String → Bool) (hf : f ≠ "") (hl : load v6 f = false) :
    GenFileSetup.setupFile v6 (f :: rest) load newWatcherOk add = .loadErr := by
  rw [GEN_filesetup_setup_eq, List.headD_cons, setup_cons, if_neg hf, hl]
  rfl

example : GenFileSetup.setupFile true ["f", "autorefresh"] (fun _ _ => false) false (fun _ => false) = .loadErr := by decide

/-- a malformed version leaves the mapping as it is (`refresh false = .keep`): the state after the attempt is the
state before; a well-formed one (`refresh true = .replace`) puts its table in force for this protocol and leaves the
other protocol's alone -/
theorem FILESETUP_refresh_is_load (s : FState) (v6 : Bool) (lines : List FLine) :
    (FileSetup.refresh (s.load v6 lines).2 = .keep → (s.load v6 lines).1 = s) ∧
    (FileSetup.refresh (s.load v6 lines).2 = .replace →
      loadFile v6 lines [] = some ((s.load v6 lines).1.table v6) ∧ (s.load v6 lines).1.table (!v6) = s.table (!v6)) := by
  cases h : loadFile v6 lines [] with
  | none => rw [FileAux.load_of_none s h]; exact ⟨fun _ => rfl, nofun⟩
  | some t =>
    rw [FileAux.load_of_some s h]
    exact ⟨nofun, fun _ => ⟨congrArg some (FileAux.table_setTable s v6 t).symm, FileAux.table_setTable_not s v6 t⟩⟩

example : FileSetup.refresh (({} : FState).load false [FLine.fields 3 none .none]).2 = .keep ∧
    FileSetup.refresh (({} : FState).load false [FLine.fields 2 (some [1]) (.v4 7#32)]).2 = .replace := by decide

/-- the refresher as the code has it (`loopAfter`: it goes on after a failed reload): after any sequence of versions,
well-formed or not, a later well-formed version is in force -/
theorem FILESETUP_later_good_version_picked_up (s : FState) (v6 : Bool) (versions : List (List FLine))
    (good : List FLine) (t : FTable) (h : loadFile v6 good [] = some t) :
    (FileSetup.run FileSetup.loopAfter s v6 (versions ++ [good])).table v6 = t := by
  induction versions generalizing s with
  | nil =>
    simp only [List.nil_append, FileSetup.run, FileSetup.loopAfter, FileAux.load_of_some s h]
    exact FileAux.table_setTable s v6 t
  | cons f rest ih => simp only [List.cons_append, FileSetup.run, FileSetup.loopAfter]; exact ih _

-- with a loop that stopped after a failed reload (`return` for `continue`) the good version would never be picked up
example :
    let bad := [FLine.fields 3 none .none]
    let good := [FLine.fields 2 (some [1]) (.v4 7#32)]
    (FileSetup.run FileSetup.loopAfter {} false [bad, good]).t4 = [([1], .v4 7#32)] ∧
    (FileSetup.run (fun ok => if ok then .continues else .stops) {} false [bad, good]).t4 = [] := by
  decide

end CoreDhcp
