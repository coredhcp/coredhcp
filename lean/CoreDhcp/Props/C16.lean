/-
C16 — Concurrent datagram handling is race-free and equivalent to a serial order.

What Lean carries: every handler of the stateful plugins runs as ONE atomic step (its mutex is
held from a top-level `Lock()` to the deferred `Unlock()` — fact F1, checked on the source on every
run; after the D14 repair this includes the prefix plugin, one step per message). Any concurrent
execution of k goroutines is then an interleaving of their atomic steps, i.e. *some* operation
list, and that list is itself the one-at-a-time order whose replies are observed. The lease
guarantees C02/C03, C04–C07, C08/C09 and C10 are proved for ALL operation lists, hence for every
interleaving. The hand-over of the receive buffers between pool, `Serve` loop and handler is modelled and proved
in Props/GenServeLoop.lean (`SERVE_no_two_owners`, `SERVE_read_into_unshared`, `SERVE_buffer_back_once`).
Data-race freedom of the real code is about memory, not logic: it stays with the race-detector run.
-/
import CoreDhcp.Props.C02
import CoreDhcp.Props.C03
import CoreDhcp.Props.C04
import CoreDhcp.Props.C05
import CoreDhcp.Props.C06
import CoreDhcp.Props.C07
import CoreDhcp.Props.C08
import CoreDhcp.Props.C09
import CoreDhcp.Props.C10
namespace CoreDhcp

/-- `Interleave ts l`: `l` is a schedule of the per-goroutine operation sequences `ts`
(repeatedly: some goroutine performs its next atomic step) -/
inductive Interleave {α : Type} : List (List α) → List α → Prop
  | done (ts : List (List α)) (h : ∀ t ∈ ts, t = []) : Interleave ts []
  | step (pre : List (List α)) (x : α) (t : List α) (post : List (List α)) (l : List α) :
      Interleave (pre ++ [t] ++ post) l → Interleave (pre ++ [x :: t] ++ post) (x :: l)

theorem Interleave.all {α : Type} (p : α → Bool) {ts : List (List α)} {l : List α}
    (h : Interleave ts l) (hp : ∀ t ∈ ts, t.all p = true) : l.all p = true := by
  induction h with
  | done ts _ => rfl
  | step pre x t post l _ ih =>
    have hx : (x :: t).all p = true := hp (x :: t) (by simp)
    simp only [List.all_cons, Bool.and_eq_true] at hx
    simp only [List.all_cons, Bool.and_eq_true]
    refine ⟨hx.1, ih ?_⟩
    intro u hu
    simp only [List.mem_append, List.mem_cons, List.not_mem_nil, or_false] at hu
    rcases hu with (hu | hu) | hu
    · exact hp u (by simp [hu])
    · subst hu; exact hx.2
    · exact hp u (by simp [hu])

/-- non-vacuity: a schedule of two goroutines -/
example : Interleave [[1, 2], [3]] [1, 3, 2] :=
  .step [] 1 [2] [[3]] [3, 2] (.step [[2]] 3 [] [] [2] (.step [] 2 [] [[]] [] (.done _ (by simp))))

/-- Allocators under any schedule of concurrent callers: C04–C07 hold at every step. -/
theorem C16_alloc6_any_schedule (p : Pool6) (hp : p.WF) (a : A6) (hnew : A6.new p = .ok a)
    (threads : List (List Op6)) (sched : List Op6) (hs : Interleave threads sched)
    (hdom : ∀ t ∈ threads, t.all (Op6.inDomain p) = true)
    (cs : List (Option Nat)) (evs : List Ev6) (z : A6) (hrun : A6.run a sched cs = some (evs, z)) :
    C04.holds6 p evs = true ∧ C05.holds6 p evs = true ∧ C06.holds6 p evs = true ∧ C07.holds6 p evs = true :=
  have hd := hs.all (Op6.inDomain p) hdom
  ⟨C04_alloc6 p hp a hnew sched cs evs z hd hrun, C05_alloc6 p hp a hnew sched cs evs z hd hrun,
   C06_alloc6 p hp a hnew sched cs evs z hd hrun, C07_alloc6 p hp a hnew sched cs evs z hd hrun⟩

/-- The same for the IPv4 allocator, whose theorems need no domain hypothesis on the operations. -/
theorem C16_alloc4_any_schedule (s e : BitVec 32) (a : A4) (hnew : A4.new (some s) (some e) = .ok a)
    (threads : List (List Op4)) (sched : List Op4) (_hs : Interleave threads sched)
    (cs : List (Option Nat)) (evs : List Ev4) (z : A4) (hrun : A4.run a sched cs = some (evs, z)) :
    C04.holds4 s e evs = true ∧ C05.holds4 s e evs = true ∧ C06.holds4 s e evs = true ∧ C07.holds4 s e evs = true :=
  ⟨C04_alloc4 s e a hnew sched cs evs z hrun, C05_alloc4 s e a hnew sched cs evs z hrun,
   C06_alloc4 s e a hnew sched cs evs z hrun, C07_alloc4 s e a hnew sched cs evs z hrun⟩

/-- DHCPv4 dynamic leases under any schedule of concurrent requests (and restarts). -/
theorem C16_range_any_schedule (start stop : BitVec 32) (lease : Int)
    (loadKey : Mac → Option Mac) (order : List (Mac × Rec) → List (Mac × Rec))
    (hkey : ∀ m, loadKey m = some m) (hperm : ∀ l, (order l).Perm l)
    (s0 : RState) (hs0 : RState.setup start stop lease [] loadKey order = .ok s0)
    (threads : List (List ROp)) (sched : List ROp) (_hs : Interleave threads sched)
    (cs : List (Option Nat)) (evs : List REv) (z : RState)
    (hrun : RState.run loadKey order s0 sched cs = some (evs, z)) :
    C02.holds ⟨start, stop, lease⟩ evs = true ∧ C03.holds ⟨start, stop, lease⟩ evs = true :=
  ⟨C02_holds start stop lease loadKey order hkey hperm s0 hs0 sched cs evs z hrun,
   C03_holds start stop lease loadKey order hkey hperm s0 hs0 sched cs evs z hrun⟩

/-- Prefix delegation under any schedule of concurrent messages (one atomic step per message). -/
theorem C16_prefix_any_schedule (pool : Pool6) (hp : pool.WF) (a : A6) (hnew : A6.new pool = .ok a)
    (threads : List (List POp)) (sched : List POp) (hs : Interleave threads sched)
    (hwf : ∀ t ∈ threads, t.all (fun op => op.iapds.all IAPDReq.wf) = true)
    (hmono : POp.monotone sched = true)
    (cs : List (Option Nat)) (evs : List PEv) (z : PState)
    (hrun : PState.run ⟨a, []⟩ sched cs = some (evs, z)) :
    C08.holds pool evs = true ∧ C09.holds pool evs = true :=
  have hw := hs.all (fun op => op.iapds.all IAPDReq.wf) hwf
  ⟨C08_holds pool hp a hnew sched hw hmono cs evs z hrun, C09_holds pool hp a hnew sched hw hmono cs evs z hrun⟩

/-- Static leases under any schedule of lookups and file refreshes: every answer comes from the
file in force at its step — the old or the new table, never a mixture. -/
theorem C16_file_any_schedule (threads : List (List FOp)) (sched : List FOp) (_hs : Interleave threads sched) :
    C10.holds (FState.run {} sched) = true := C10_holds sched

end CoreDhcp
