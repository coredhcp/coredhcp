/-
Unit `start`: Generated/Start.lean (written by `harness gen -unit start` from the go/ast of server/serve.go: listen4,
listen6, Start, (*Servers).Close) against the hand-written Model/Start.lean, and the facts about start-up that the
properties rely on, proved about the model: the listener `listenN` opens is a function of its address (`Start.opened`;
with its chain: `Start.served`), `Start.start_spec` says which of the wanted addresses are served, and the START_*
theorems read their claims off that.

The generated side keeps the shape of the Go code: the listener value is updated field by field along each path,
`Start` threads one state through two loops that APPEND (`srv.listeners = append(…)`), leaves the loops through `goto`
(`Step.jump`) and runs the label's statements (`cleanup`).  The model is written the other way round (`Start.openAll`
conses on the way back, no jumps): hence the accumulator-generalised `GEN_start_loop6_acc` / `GEN_start_loop4_acc`.
`Gen13` is the namespace of what only this comparison needs, after the translator's unit gen13.go.
-/
import CoreDhcp.Generated.Start
namespace CoreDhcp
open GenStart (Step)

theorem GEN_start_listen4_eq (a : LAddr) (o : ListenOracle) : GenStart.listen4 a o = Start.listen .v4 a o := by
  obtain ⟨c, i, s, j⟩ := o
  obtain ⟨z, m, id⟩ := a
  -- the texts differ where an answer of the world is looked at (`match` on the `Bool` against `if`) and at the zone,
  -- where the code has the rest twice and the model joins the two paths in `bound`; the multicast test is the same
  cases c
  · rfl
  by_cases hz : z = ""
  · subst hz
    cases s
    · rfl
    cases j
    · rfl
    · rfl
  · simp only [GenStart.listen4, Start.listen, ne_eq, hz, not_false_eq_true, if_true]
    cases i
    · rfl
    cases j
    · rfl
    · rfl

theorem GEN_start_listen6_eq (a : LAddr) (o : ListenOracle) : GenStart.listen6 a o = Start.listen .v6 a o := by
  obtain ⟨c, i, s, j⟩ := o
  obtain ⟨z, m, id⟩ := a
  cases c
  · rfl
  by_cases hz : z = ""
  · subst hz
    cases s
    · rfl
    cases j
    · rfl
    · rfl
  · simp only [GenStart.listen6, Start.listen, ne_eq, hz, not_false_eq_true, if_true]
    cases i
    · rfl
    cases j
    · rfl
    · rfl

theorem GEN_start_closeLoop_acc (cs : List Listener) (ls : List (Option Listener)) :
    GenStart.closeLoop cs ls = cs ++ Start.close ls := by
  induction ls generalizing cs with
  | nil => exact (List.append_nil cs).symm
  | cons x rest ih =>
    cases x with
    | none => exact ih cs
    | some l => exact (ih _).trans (List.append_assoc ..)

theorem GEN_start_close_eq (ls : List (Option Listener)) : GenStart.close ls = Start.close ls :=
  GEN_start_closeLoop_acc [] ls

theorem Start.close_map_some (ls : List Listener) : Start.close (ls.map some) = ls := by
  induction ls with
  | nil => rfl
  | cons l rest ih => exact congrArg (l :: ·) ih

/-- the model's result of one section as the outcome of the generated loop started in the state `st`:
the listeners appended to `srv.listeners` and to the goroutines, one more world answer used per listen call -/
def Gen13.ofOpen (st : St) : List Listener × Option ListenFail → Step
  | (ls, none) => .next ⟨st.listeners ++ ls.map some, st.serving ++ ls, st.closed, st.asked + ls.length⟩
  | (ls, some f) => .jump ⟨st.listeners ++ ls.map some, st.serving ++ ls, st.closed, st.asked + ls.length + 1⟩ f

theorem Gen13.ofOpen_cons (st : St) (l : Listener) (r : List Listener × Option ListenFail) :
    Gen13.ofOpen ⟨st.listeners ++ [some l], st.serving ++ [l], st.closed, st.asked + 1⟩ r =
      Gen13.ofOpen st (l :: r.1, r.2) := by
  obtain ⟨ls, f⟩ := r
  cases f <;> simp [Gen13.ofOpen, Nat.add_comm, Nat.add_left_comm]

theorem GEN_start_loop6_acc (w : World) (st : St) (as : List LAddr) :
    GenStart.loop6 w st as = Gen13.ofOpen st (Start.openAll .v6 w st.asked as) := by
  induction as generalizing st with
  | nil => simp [GenStart.loop6, Start.openAll, Gen13.ofOpen]
  | cons a rest ih =>
    rw [GenStart.loop6, GenStart.body6, GEN_start_listen6_eq, Start.openAll]
    cases Start.listen .v6 a (w st.asked) with
    | error f => simp [Gen13.ofOpen]
    | ok l => exact (ih _).trans (Gen13.ofOpen_cons st _ _)

theorem GEN_start_loop4_acc (w : World) (st : St) (as : List LAddr) :
    GenStart.loop4 w st as = Gen13.ofOpen st (Start.openAll .v4 w st.asked as) := by
  induction as generalizing st with
  | nil => simp [GenStart.loop4, Start.openAll, Gen13.ofOpen]
  | cons a rest ih =>
    rw [GenStart.loop4, GenStart.body4, GEN_start_listen4_eq, Start.openAll]
    cases Start.listen .v4 a (w st.asked) with
    | error f => simp [Gen13.ofOpen]
    | ok l => exact (ih _).trans (Gen13.ofOpen_cons st _ _)

/-- `if config.ServerN != nil { for … }` of the generated `Start`, as a function of the section -/
def Gen13.sec (loop : St → List LAddr → Step) (st : St) : Option (List LAddr) → Step
  | none => .next st
  | some as => loop st as

theorem Gen13.sec_eq (loop : St → List LAddr → Step) (h : ∀ st, loop st [] = .next st) (st : St)
    (s : Option (List LAddr)) : Gen13.sec loop st s = loop st (s.getD []) := by
  cases s
  · exact (h st).symm
  · rfl

theorem Gen13.start_unfold (s6 s4 : Option (List LAddr)) (loadedOk : Bool) (w : World) :
    GenStart.start s6 s4 loadedOk w =
      match loadedOk with
      | false => .loadErr
      | true =>
        match Gen13.sec (GenStart.loop6 w) ⟨[], [], [], 0⟩ s6 with
        | .jump st f => GenStart.cleanup st f
        | .next st =>
          match Gen13.sec (GenStart.loop4 w) st s4 with
          | .jump st' f => GenStart.cleanup st' f
          | .next st' => .ok st' := rfl

theorem GEN_start_start_eq (cfg : StartCfg) (loadedOk : Bool) (w : World) :
    GenStart.start cfg.server6 cfg.server4 loadedOk w = Start.start cfg loadedOk w := by
  obtain ⟨s6, s4⟩ := cfg
  rw [Gen13.start_unfold]
  unfold Start.start
  cases loadedOk with
  | false => rfl
  | true =>
    simp only [Gen13.sec_eq (GenStart.loop6 w) (fun _ => rfl), Gen13.sec_eq (GenStart.loop4 w) (fun _ => rfl),
      GEN_start_loop6_acc, GEN_start_loop4_acc, Bool.true_eq_false, if_false]
    cases Start.openAll .v6 w 0 (s6.getD []) with
    | mk ls6 r6 =>
      cases r6 with
      | some f =>
        simp [Gen13.ofOpen, GenStart.cleanup, GEN_start_close_eq, Start.close_map_some]
      | none =>
        simp only [Gen13.ofOpen, List.nil_append, Nat.zero_add]
        cases Start.openAll .v4 w ls6.length (s4.getD []) with
        | mk ls4 r4 =>
          cases r4 <;>
            simp [GenStart.cleanup, GEN_start_close_eq, Start.close_map_some, ← List.map_append, Nat.add_assoc]

/-- what a listener looks like that `listenN` has opened for the address `a` and `Start` has given its chain, field by
field; `Start.served` is that listener as a value -/
structure Start.Good (p : Proto) (a : LAddr) (l : Listener) : Prop where
  proto : l.proto = p
  conn : l.conn = some (p, a.zone, a.id)
  chain : l.chain = some (Chain.of p)
  unbound : a.zone = "" → l.iface = none ∧ (CFlag.interface, true) ∈ l.cmsg
  bound : a.zone ≠ "" → l.iface = some a.zone
  joined : l.joined = if a.multicast then some (l.iface, a.id) else none

/-- the listener value a successful `listenN` on the address `a` returns: it does not depend on the world's answers -/
def Start.opened (p : Proto) (a : LAddr) : Listener :=
  { proto := p, conn := some (p, a.zone, a.id),
    iface := if a.zone ≠ "" then some a.zone else none,
    cmsg := if a.zone ≠ "" then [] else [(.interface, true)],
    joined := if a.multicast then some (if a.zone ≠ "" then some a.zone else none, a.id) else none,
    chain := none }

/-- a listen call returns THE listener of its address, or fails having dropped a value without a chain that holds the
socket unless opening it was what failed -/
theorem Start.listen_spec (p : Proto) (a : LAddr) (o : ListenOracle) :
    match Start.listen p a o with
    | .ok l => l = Start.opened p a
    | .error f => f.dropped.chain = none ∧ (f.err ≠ .conn → f.dropped.conn = some (p, a.zone, a.id)) := by
  obtain ⟨c, i, s, j⟩ := o
  obtain ⟨z, m, id⟩ := a
  cases c
  · exact ⟨rfl, fun h => absurd rfl h⟩
  by_cases hz : z = ""
  · subst hz
    cases s
    · exact ⟨rfl, fun _ => rfl⟩
    cases m
    · exact rfl
    cases j
    · exact ⟨rfl, fun _ => rfl⟩
    · exact rfl
  · simp only [Start.listen, Start.opened, ne_eq, hz, not_false_eq_true, if_true]
    cases i
    · exact ⟨rfl, fun _ => rfl⟩
    cases m
    · exact rfl
    cases j
    · exact ⟨rfl, fun _ => rfl⟩
    · exact rfl

/-- the addresses `Start` is to listen on: those of the DHCPv6 section, then those of the DHCPv4 section,
each with its protocol; an absent section contributes nothing -/
def Start.wanted (cfg : StartCfg) : List (Proto × LAddr) :=
  (cfg.server6.getD []).map (fun a => (Proto.v6, a)) ++ (cfg.server4.getD []).map (fun a => (Proto.v4, a))

def Start.served (pa : Proto × LAddr) : Listener := { Start.opened pa.1 pa.2 with chain := some (Chain.of pa.1) }

/-- `pre`: the addresses before the one whose listen call failed (all of them when none did); that call got the
world's answers number `k + pre.length` -/
theorem Start.openAll_spec (p : Proto) (w : World) : ∀ (k : Nat) (as : List LAddr),
    ∃ pre post, as = pre ++ post ∧
      (Start.openAll p w k as).1 = (pre.map (fun a => (p, a))).map Start.served ∧
      (match (Start.openAll p w k as).2 with
       | none => post = []
       | some f => ∃ a post', post = a :: post' ∧ Start.listen p a (w (k + pre.length)) = .error f)
  | _, [] => ⟨[], [], rfl, rfl, rfl⟩
  | k, a :: rest => by
    unfold Start.openAll
    cases h : Start.listen p a (w k) with
    | error f => exact ⟨[], a :: rest, rfl, rfl, a, rest, rfl, h⟩
    | ok l =>
      obtain ⟨pre, post, hsplit, hmap, hend⟩ := Start.openAll_spec p w (k + 1) rest
      refine ⟨a :: pre, post, ?_, ?_, ?_⟩
      · rw [hsplit]
        rfl
      · have hl := Start.listen_spec p a (w k)
        rw [h] at hl
        rw [hl]
        exact congrArg (Start.served (p, a) :: ·) hmap
      · rw [List.length_cons, Nat.add_comm pre.length, ← Nat.add_assoc]
        exact hend

theorem Start.start_spec (cfg : StartCfg) (w : World) :
    match Start.start cfg true w with
    | .loadErr => False
    | .ok st => st.serving = (Start.wanted cfg).map Start.served ∧
        st.listeners = st.serving.map some ∧ st.closed = [] ∧ st.asked = st.serving.length
    | .listenErr st f => ∃ pre pa post, Start.wanted cfg = pre ++ pa :: post ∧
        st.serving = pre.map Start.served ∧
        st.listeners = st.serving.map some ∧ st.closed = st.serving ∧ st.asked = st.serving.length + 1 ∧
        Start.listen pa.1 pa.2 (w pre.length) = .error f := by
  obtain ⟨s6, s4⟩ := cfg
  unfold Start.start Start.wanted
  rw [if_neg Bool.noConfusion]
  obtain ⟨pre6, post6, hs6, hg6, he6⟩ := Start.openAll_spec .v6 w 0 (s6.getD [])
  cases hr6 : Start.openAll .v6 w 0 (s6.getD []) with
  | mk ls6 r6 =>
    rw [hr6] at he6 hg6
    subst hg6
    cases r6 with
    | some f =>
      obtain ⟨a, post', rfl, hfail⟩ := he6
      refine ⟨pre6.map (fun a => (Proto.v6, a)), (Proto.v6, a),
        post'.map (fun a => (Proto.v6, a)) ++ (s4.getD []).map (fun a => (Proto.v4, a)), ?_, rfl, rfl, rfl, rfl, ?_⟩
      · rw [hs6, List.map_append, List.map_cons, List.append_assoc, List.cons_append]
      · rw [List.length_map, ← Nat.zero_add pre6.length]
        exact hfail
    | none =>
      subst he6
      rw [List.append_nil] at hs6
      dsimp only
      obtain ⟨pre4, post4, hs4, hg4, he4⟩ := Start.openAll_spec .v4 w
        ((pre6.map fun a => (Proto.v6, a)).map Start.served).length (s4.getD [])
      cases hr4 : Start.openAll .v4 w ((pre6.map fun a => (Proto.v6, a)).map Start.served).length (s4.getD []) with
      | mk ls4 r4 =>
        rw [hr4] at he4 hg4
        subst hg4
        cases r4 with
        | some f =>
          obtain ⟨a, post', rfl, hfail⟩ := he4
          refine ⟨pre6.map (fun a => (Proto.v6, a)) ++ pre4.map (fun a => (Proto.v4, a)), (Proto.v4, a),
            post'.map (fun a => (Proto.v4, a)), ?_, List.map_append.symm, rfl, rfl, rfl, ?_⟩
          · rw [hs6, hs4, List.map_append, List.map_cons, List.append_assoc]
          · rw [List.length_append, List.length_map, List.length_map]
            rw [List.length_map, List.length_map] at hfail
            exact hfail
        | none =>
          subst he4
          rw [List.append_nil] at hs4
          refine ⟨?_, rfl, rfl, rfl⟩
          rw [hs6, hs4]
          exact List.map_append.symm

/-! Non-vacuity: a configuration with both sections — DHCPv6 on a multicast address of zone eth0 and on an
address without zone, DHCPv4 on an address without zone.  The contents of the loaded chains are not an input
of `Start.start` at all (only `loadedOk` is): what follows holds just the same when a chain is EMPTY. -/
def Start.exCfg : StartCfg :=
  { server6 := some [⟨"eth0", true, 0⟩, ⟨"", false, 1⟩], server4 := some [⟨"", false, 2⟩] }
def Start.exWorld : World := fun _ => ⟨true, true, true, true⟩
/-- the third listen call (the DHCPv4 address) fails at SetControlMessage -/
def Start.exWorldFail : World := fun k => if k = 2 then ⟨true, true, false, true⟩ else ⟨true, true, true, true⟩

/-- EVERY address of EVERY present section gets a listener, in order (DHCPv6 section first), and nothing else
does — whatever the loaded chains are (also when a chain is empty: that listener then answers with the bare
ADVERTISE / OFFER) -/
theorem START_every_section_listens (cfg : StartCfg) (w : World) (st : St)
    (h : Start.start cfg true w = .ok st) :
    st.serving.map (fun l => (l.proto, l.conn))
      = (Start.wanted cfg).map (fun pa => (pa.1, some (pa.1, pa.2.zone, pa.2.id))) ∧
    st.listeners = st.serving.map some ∧ st.closed = [] := by
  have hs := Start.start_spec cfg w
  rw [h] at hs
  obtain ⟨hg, hl, hc, _⟩ := hs
  refine ⟨?_, hl, hc⟩
  rw [hg, List.map_map]
  rfl

example : ∃ st, Start.start Start.exCfg true Start.exWorld = .ok st ∧
    st.serving.map (fun l => (l.proto, l.conn))
      = [(.v6, some (.v6, "eth0", 0)), (.v6, some (.v6, "", 1)), (.v4, some (.v4, "", 2))] := ⟨_, rfl, rfl⟩

/-- every listener carries the whole loaded chain of its own protocol -/
theorem START_whole_chain (cfg : StartCfg) (w : World) (st : St)
    (h : Start.start cfg true w = .ok st) : ∀ l ∈ st.serving, l.chain = some (Chain.of l.proto) := by
  have hs := Start.start_spec cfg w
  rw [h] at hs
  intro l hl
  rw [hs.1] at hl
  obtain ⟨pa, _, rfl⟩ := List.mem_map.mp hl
  rfl

example : ∃ st, Start.start Start.exCfg true Start.exWorld = .ok st ∧
    st.serving.map (·.chain) = [some .chain6, some .chain6, some .chain4] := ⟨_, rfl, rfl⟩

/-- a listener without a zone has per-packet interface information switched on (and is bound to no
interface); a listener with a zone is bound to that zone's interface -/
theorem START_unbound_has_pktinfo (cfg : StartCfg) (w : World) (st : St)
    (h : Start.start cfg true w = .ok st) :
    ∀ l ∈ st.serving, ∃ zone id, l.conn = some (l.proto, zone, id) ∧
      (zone = "" → l.iface = none ∧ (CFlag.interface, true) ∈ l.cmsg) ∧
      (zone ≠ "" → l.iface = some zone) := by
  have hs := Start.start_spec cfg w
  rw [h] at hs
  intro l hl
  rw [hs.1] at hl
  obtain ⟨pa, _, rfl⟩ := List.mem_map.mp hl
  refine ⟨pa.2.zone, pa.2.id, rfl, fun hz => ⟨if_neg (fun h => h hz), ?_⟩, fun hz => if_pos hz⟩
  show (CFlag.interface, true) ∈ (if pa.2.zone ≠ "" then [] else [(CFlag.interface, true)])
  rw [if_neg (fun h => h hz)]
  exact List.mem_singleton.mpr rfl

example : ∃ st, Start.start Start.exCfg true Start.exWorld = .ok st ∧
    st.serving.map (fun l => (l.iface, l.cmsg, l.joined))
      = [(some "eth0", [], some (some "eth0", 0)), (none, [(.interface, true)], none),
         (none, [(.interface, true)], none)] := ⟨_, rfl, rfl⟩

/-- on a listen error the listeners closed are exactly the listeners opened before the failure — those of
the wanted addresses before the failing one, in order; srv.listeners held exactly them; and every goroutine
that had been started serves a listener that has been closed -/
theorem START_cleanup (cfg : StartCfg) (w : World) (st : St) (f : ListenFail)
    (h : Start.start cfg true w = .listenErr st f) :
    ∃ pre pa post, Start.wanted cfg = pre ++ pa :: post ∧
      st.closed.map (fun l => (l.proto, l.conn)) = pre.map (fun pa => (pa.1, some (pa.1, pa.2.zone, pa.2.id))) ∧
      st.listeners = st.closed.map some ∧ st.serving = st.closed ∧
      Start.listen pa.1 pa.2 (w pre.length) = .error f := by
  have hs := Start.start_spec cfg w
  rw [h] at hs
  obtain ⟨pre, pa, post, hw, hg, hl, hc, _, hf⟩ := hs
  refine ⟨pre, pa, post, hw, ?_, ?_, hc.symm, hf⟩
  · rw [hc, hg, List.map_map]
    rfl
  · rw [hc]
    exact hl

example : ∃ st f, Start.start Start.exCfg true Start.exWorldFail = .listenErr st f ∧
    st.closed.map (fun l => (l.proto, l.conn)) = [(.v6, some (.v6, "eth0", 0)), (.v6, some (.v6, "", 1))] ∧
    st.serving = st.closed ∧ f.err = .setCM := ⟨_, _, rfl, rfl, rfl, rfl⟩

/-- DEFECT made visible: the cleanup does not reach the failing `listenN` itself — when it fails after
the socket was opened (interface not found, SetControlMessage or JoinGroup refused), that socket is in
no listener that is closed: it stays open -/
theorem START_failed_listen_leaks_socket (cfg : StartCfg) (w : World) (st : St) (f : ListenFail)
    (h : Start.start cfg true w = .listenErr st f) (hne : f.err ≠ .conn) :
    (∃ c, f.dropped.conn = some c) ∧ f.dropped ∉ st.closed := by
  have hs := Start.start_spec cfg w
  rw [h] at hs
  obtain ⟨pre, pa, post, _, hg, _, hc, _, hf⟩ := hs
  have he := Start.listen_spec pa.1 pa.2 (w pre.length)
  rw [hf] at he
  refine ⟨⟨_, he.2 hne⟩, fun hmem => ?_⟩
  rw [hc, hg] at hmem
  obtain ⟨x, _, hx⟩ := List.mem_map.mp hmem
  -- a served listener has a chain, the dropped value has none
  have := he.1
  rw [← hx] at this
  cases this

example : ∃ st f, Start.start Start.exCfg true Start.exWorldFail = .listenErr st f ∧
    f.err = .setCM ∧ f.dropped.conn = some (.v4, "", 2) ∧ st.closed.length = 2 := ⟨_, _, rfl, rfl, rfl, rfl⟩

theorem START_load_error_opens_nothing (cfg : StartCfg) (w : World) : Start.start cfg false w = .loadErr := rfl

example : Start.start Start.exCfg false Start.exWorld = .loadErr := rfl

/-- the generated definitions on the same inputs (they are not constant functions) -/
example : ∃ st, GenStart.start Start.exCfg.server6 Start.exCfg.server4 true Start.exWorld = .ok st ∧
    st.serving.length = 3 ∧ st.closed = [] := ⟨_, rfl, rfl, rfl⟩
example : ∃ st f, GenStart.start Start.exCfg.server6 Start.exCfg.server4 true Start.exWorldFail = .listenErr st f ∧
    st.closed.length = 2 ∧ f.err = .setCM := ⟨_, _, rfl, rfl, rfl⟩
example : GenStart.listen6 ⟨"eth0", true, 7⟩ ⟨true, true, true, false⟩
    = .error ⟨.join, { Listener.zero .v6 with conn := some (.v6, "eth0", 7), iface := some "eth0" }⟩ := rfl
example : GenStart.listen6 ⟨"eth0", true, 7⟩ ⟨true, false, true, true⟩
    = .error ⟨.noInterface .v4 "eth0", { Listener.zero .v6 with conn := some (.v6, "eth0", 7) }⟩ := rfl

end CoreDhcp
