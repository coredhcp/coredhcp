/-
C13 — Plugins run in configured order until one stops the chain.
Handlers are arbitrary functions.
-/
import CoreDhcp.Proofs.Chain
import CoreDhcp.Proofs.Dispatch
namespace CoreDhcp

/-- The invocation log of the chain is positions 0..k-1 in order, each once, each receiving the
original request and the response returned by its predecessor (`chainIn`), and the result is the
response returned last. -/
theorem C13_order {Req Resp : Type} (hs : List (Req → Option Resp → Option Resp × Bool)) (req : Req) (r0 : Option Resp) :
    (runChain hs req 0 r0).2 = (List.range (chainLen hs req r0)).map (fun i => (i, chainIn hs req r0 i)) ∧
    (runChain hs req 0 r0).1 = chainIn hs req r0 (chainLen hs req r0) := by
  rw [runChain_eq, go_eq]
  simp only [Nat.zero_add, and_self]

/-- Invocation stops after the first handler that signals stop, and not before. -/
theorem C13_stop {Req Resp : Type} (hs : List (Req → Option Resp → Option Resp × Bool)) (req : Req) (r0 : Option Resp) :
    chainLen hs req r0 ≤ hs.length ∧
    (∀ i, i + 1 < chainLen hs req r0 → chainStops hs req r0 i = false) ∧
    (chainLen hs req r0 < hs.length → chainStops hs req r0 (chainLen hs req r0 - 1) = true ∧ 0 < chainLen hs req r0) := by
  unfold chainLen
  split
  · next i hi =>
    rw [List.find?_range_eq_some] at hi
    obtain ⟨h1, h2, h3⟩ := hi
    rw [List.mem_range] at h2
    refine ⟨h2, ?_, ?_⟩
    · intro j hj
      exact (Bool.not_eq_true' _).mp (h3 j (Nat.lt_of_succ_lt_succ hj))
    · intro _
      exact ⟨h1, Nat.succ_pos i⟩
  · next hn =>
    rw [List.find?_range_eq_none] at hn
    refine ⟨Nat.le_refl _, ?_, ?_⟩
    · intro j hj
      exact (Bool.not_eq_true' _).mp (hn j (Nat.lt_of_succ_lt hj))
    · exact (absurd · (Nat.lt_irrefl _))

/-- What is sent is the response returned last; a nil response means nothing is sent. -/
theorem C13_sends_last4 (bound : Nat) (oob : Option Nat) (hs : List Handler4) (req : Req4) (r0 : Resp4)
    (h0 : stub4 req = some r0) :
    (match dispatch4 bound oob hs (some req) with
     | .send resp _ _ _ _ => (runChain hs req 0 (some r0)).1 = some resp
     | .drop => (runChain hs req 0 (some r0)).1 = none
     | .panicNoIf => (runChain hs req 0 (some r0)).1 ≠ none) := by
  rw [dispatch4_eq bound oob hs req r0 h0]
  cases hc : (runChain hs req 0 (some r0)).1 with
  | none => rfl
  | some resp =>
    rcases deliver4_cases bound oob req resp with h | ⟨_, _, _, _, h⟩
    · simp only [h]; exact nofun
    · simp only [h]

/-- The same for DHCPv6, where nothing is sent in one more case: the response the chain returned is dropped
when the outermost layer of the request is not a Relay-Forward. -/
theorem C13_sends_last6 (bound : Nat) (oob : Option Nat) (src : Addr) (hs : List Handler6) (d : Pkt6) (m : Msg6) (r0 : Resp6)
    (hm : d.msg = some m) (h0 : stub6 m = some r0) :
    (match dispatch6 bound oob src hs (some d) with
     | .send _ resp _ => (runChain hs d 0 (some r0)).1 = some resp
     | .drop => (runChain hs d 0 (some r0)).1 = none ∨ ∃ l rest, d.layers = l :: rest ∧ l.mt ≠ 12) := by
  rw [dispatch6_eq bound oob src hs d m r0 hm h0]
  cases hc : (runChain hs d 0 (some r0)).1 with
  | none => exact Or.inl rfl
  | some resp =>
    rcases deliver6_cases bound oob src d resp with ⟨h, hl⟩ | h
    · simp only [h]; exact Or.inr hl
    · simp only [h]

/-- Loading: on success every listed name is registered and the handlers are exactly the listed
plugins that support the protocol, in file order … -/
theorem C13_load_exact {H : Type} (reg : Registry H) (ps : List (String × List String)) (hs : List H)
    (h : loadChain reg ps = .ok hs) :
    (∀ p ∈ ps, (reg p.1).isSome = true) ∧ (supported reg ps).map (·.2) = hs.map (fun x => .ok (some x)) := by
  induction ps generalizing hs with
  | nil => cases h; exact ⟨List.forall_mem_nil _, rfl⟩
  | cons p rest ih =>
    obtain ⟨name, args⟩ := p
    rw [supported_cons, List.forall_mem_cons]
    rcases (loadChain_cons_ok reg name args rest hs).mp h with ⟨hr, hl⟩ | ⟨f, x, hs', hr, hf, hl, rfl⟩
    · obtain ⟨i1, i2⟩ := ih hs hl
      rw [hr]
      exact ⟨⟨rfl, i1⟩, i2⟩
    · obtain ⟨i1, i2⟩ := ih hs' hl
      rw [hr]
      exact ⟨⟨rfl, i1⟩, by rw [List.map_cons, List.map_cons, i2, hf]⟩

/-- … an unknown name or any failing (or nil-returning) setup aborts start-up with an error … -/
theorem C13_load_aborts {H : Type} (reg : Registry H) (ps : List (String × List String))
    (h : (∃ p ∈ ps, reg p.1 = none) ∨ (∃ q ∈ supported reg ps, q.2 = .error () ∨ q.2 = .ok none)) :
    ∃ e, loadChain reg ps = .error e := by
  cases hl : loadChain reg ps with
  | error e => exact ⟨e, rfl⟩
  | ok hs =>
    exfalso
    obtain ⟨i1, i2⟩ := C13_load_exact reg ps hs hl
    rcases h with ⟨p, hp, hn⟩ | ⟨q, hq, hq2⟩
    · have := i1 p hp
      rw [hn] at this; cases this
    · have hm : q.2 ∈ (supported reg ps).map (·.2) := List.mem_map.mpr ⟨q, hq, rfl⟩
      rw [i2] at hm
      obtain ⟨x, _, hx⟩ := List.mem_map.mp hm
      -- `q.2` is `.ok (some x)`: neither an error nor a nil handler
      rcases hq2 with hq2 | hq2
      · rw [hq2] at hx; cases hx
      · rw [hq2] at hx; cases hx

/-- … and otherwise loading succeeds. -/
theorem C13_load_succeeds {H : Type} (reg : Registry H) (ps : List (String × List String))
    (h1 : ∀ p ∈ ps, (reg p.1).isSome = true)
    (h2 : ∀ q ∈ supported reg ps, ∃ x, q.2 = .ok (some x)) :
    ∃ hs, loadChain reg ps = .ok hs := by
  induction ps with
  | nil => exact ⟨[], rfl⟩
  | cons p rest ih =>
    obtain ⟨name, args⟩ := p
    rw [List.forall_mem_cons] at h1
    rw [supported_cons] at h2
    obtain ⟨hh, h1⟩ := h1
    cases hr : reg name with
    | none => rw [hr] at hh; cases hh
    | some o =>
      rw [hr] at h2
      cases o with
      | none =>
        obtain ⟨hs, hl⟩ := ih h1 h2
        exact ⟨hs, (loadChain_cons_ok reg name args rest hs).mpr (.inl ⟨hr, hl⟩)⟩
      | some f =>
        rw [List.forall_mem_cons] at h2
        obtain ⟨⟨x, hx⟩, h2⟩ := h2
        obtain ⟨hs', hl⟩ := ih h1 h2
        exact ⟨x :: hs', (loadChain_cons_ok reg name args rest _).mpr (.inr ⟨f, x, hs', hr, hx, hl, rfl⟩)⟩

end CoreDhcp
