/-
GEN (`netmask.checkValidNetmask`) — the definition regenerated from the Go source on every run
(Generated/Netmask.lean, written by `harness gen -unit netmask` from the go/ast of plugins/netmask/plugin.go,
uint32 arithmetic as `BitVec 32`) is equal to the model's `Plug.netmask.checkValid`, which is written with
`Nat` arithmetic modulo 2^32.

An edit of the Go function changes the generated text, makes the statement below false and breaks this file
(or is rejected by the translator); a renamed local or reformatted source generates the same text.
-/
import CoreDhcp.Generated.Netmask
import CoreDhcp.Model.OptPlug
namespace CoreDhcp

theorem bv_beq_zero (v : BitVec 32) : (v == 0#32) = (v.toNat == 0) := by
  rw [Bool.eq_iff_iff, beq_iff_eq, beq_iff_eq]
  exact BitVec.toNat_inj.symm

/-- the generated uint32 computation on `binary.BigEndian.Uint32(netmask)` (the four bytes read
big-endian, `ofBe`, as a `BitVec 32`) is the model's check -/
theorem GEN_checkValidNetmask_eq (bs : Plug.Bytes) :
    Plug.netmask.checkValid bs = Generated.checkValidNetmask (BitVec.ofNat 32 (Plug.ofBe bs)) := by
  unfold Plug.netmask.checkValid Generated.checkValidNetmask
  -- `BitVec.toNat_not` is `2^32 - 1 - x`, the model's `4294967295 - ofBe m % 4294967296`; `+`, `&&&` likewise
  simp only [bv_beq_zero, BitVec.toNat_and, BitVec.toNat_add, BitVec.toNat_not, BitVec.toNat_ofNat]

/-- sanity: every prefix mask /0 … /32 passes, 255.0.255.0 and 0.0.0.1 do not -/
theorem GEN_checkValidNetmask_masks :
    (List.range 33).all (fun k => Generated.checkValidNetmask (BitVec.allOnes 32 <<< (32 - k))) = true ∧
    Generated.checkValidNetmask 0xff00ff00#32 = false ∧ Generated.checkValidNetmask 1#32 = false := by
  decide +kernel

end CoreDhcp
