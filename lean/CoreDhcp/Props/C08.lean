/-
C08 — Delegated prefixes are in the pool, well-formed and disjoint across clients.
-/
import CoreDhcp.Proofs.Prefix
namespace CoreDhcp

/-- For every well-formed IPv6 pool, every history of messages (any clients, any number of IA_PDs,
any hints the library can deliver, direct or relayed), every admissible allocator policy and a
clock that does not run backwards: every delegated prefix lies in the pool, is aligned to and no
larger than the allocation size, has lifetimes 0 < preferred = valid ≤ 1 h, does not overlap any
prefix ever delegated to another client, and every request IA_PD is answered by exactly one IA_PD
with the same IAID (an empty one standing for NoPrefixAvail). -/
theorem C08_holds (pool : Pool6) (hp : pool.WF) (a : A6) (hnew : A6.new pool = .ok a)
    (ops : List POp) (hwf : ops.all (fun op => op.iapds.all IAPDReq.wf) = true)
    (hmono : POp.monotone ops = true)
    (cs : List (Option Nat)) (evs : List PEv) (z : PState)
    (hrun : PState.run ⟨a, []⟩ ops cs = some (evs, z)) :
    C08.holds pool evs = true := by
  unfold C08.holds
  exact all_of_all_imp (PState.run_verdicts pool hp a hnew ops hwf hmono cs evs z hrun)
    (fun _ hv => (Bool.and_eq_true_iff.1 hv).1)

/-- non-vacuity: a concrete two-client history is a run of the model -/
example : ∃ a evs z, A6.new ⟨⟨0x20010db800000000#64, 0#64⟩, 60, 62⟩ = .ok a ∧
    PState.run ⟨a, []⟩
      [⟨some [1], [⟨1, []⟩], 10⟩, ⟨some [2], [⟨1, [.empty]⟩, ⟨2, []⟩], 20⟩, ⟨some [1], [⟨1, []⟩], 30⟩]
      [some 0, some 1, none, none] = some (evs, z) ∧ evs.length = 3 ∧
    C08.holds ⟨⟨0x20010db800000000#64, 0#64⟩, 60, 62⟩ evs = true := ⟨_, _, _, rfl, rfl, rfl, rfl⟩

end CoreDhcp
