/-
GEN (static leases from a file).  Generated/FilePlugin.lean is written by `harness gen -unit fileplugin` from the go/ast of
plugins/file/plugin.go: both loaders line by line, `handle4`, `handle6`, `loadFromFile`, and the table each registered
handler is given.  The statements have the form  generated function = embedding (model function of Model/File.lean):
they say that the decisions agree and what the generated side has beyond the model.  `Gen7.` marks this file's own
definitions (7 after harness/gen7.go, the translator of this unit): `Gen7.ofLoad`, `ofLoadFrom`, `ofReply4/6` are the
embeddings (a model result as the code returns it), `Gen7.toLoad`, `toF` the ways back, which forget what the model lacks.
  * A line is the record `GenFile.Line` of the library's answers (`len(line) == 0`, `strings.HasPrefix(line, "#")`,
    `len(strings.Fields(line))`, `net.ParseMAC`, `net.ParseIP`); the ORDER in which the code asks is in the generated
    text, and the model's `FLine` is the classification `Gen7.toFLine` of such a record.
  * The loaders return WHICH error (`Gen7.lineErr`), the handlers `(response | nil, stop)` with what was put into the
    response, the state has the third table `StaticRecords`.
Where code and model agree only on part of the inputs, the rest is stated next to the theorem.  `handle4` / `handle6`
serve whatever the table holds, the model only an entry of the protocol's family: they agree on every table a loader
can have produced (`Gen7.Fam`, kept by `Gen7.wf_load`), `GEN_file_handle4/6_other` is the rest.  `handle6` returns
`nil, true` when `req.GetInnerMessage()` fails, an input the model does not have (`GEN_file_handle6_undecapsulated`).
-/
import CoreDhcp.Generated.FilePlugin
import CoreDhcp.Proofs.File
namespace CoreDhcp
open GenFile (Line LoadErr Flow State Req4 Req6 Inner6 Eff4 Eff6 Out4 Out6 to4Nil to16Nil)

def Gen7.toFLine (l : Line) : FLine :=
  if l.len0 then .empty else if l.hash then .comment else .fields l.nfields l.mac l.ip

/-- what the code does not look at is filled in arbitrarily -/
def Gen7.ofFLine : FLine → Line
  | .empty => ⟨true, false, 0, none, .none⟩
  | .comment => ⟨false, true, 1, none, .none⟩
  | .fields n mac ip => ⟨false, false, n, mac, ip⟩

theorem Gen7.toFLine_ofFLine (l : FLine) : Gen7.toFLine (Gen7.ofFLine l) = l := by
  cases l <;> rfl

theorem Gen7.map_toFLine_ofFLine (ls : List FLine) : (ls.map Gen7.ofFLine).map Gen7.toFLine = ls := by
  induction ls with
  | nil => rfl
  | cons l rest ih => simp only [List.map_cons, Gen7.toFLine_ofFLine, ih]

/-- why a line makes a loader give up (`none`: it does not) -/
def Gen7.lineErr (v6 : Bool) (l : Line) : Option LoadErr :=
  if l.len0 = true ∨ l.hash = true then none
  else if l.nfields ≠ 2 then some .fieldCount
  else match l.mac with
    | none => some .badMAC
    | some _ =>
      match v6, l.ip with
      | false, .v4 _ => none
      | true, .v6 _ => none
      | false, _ => some .notIPv4
      | true, _ => some .notIPv6

def Gen7.ofLoad (v6 : Bool) (lines : List Line) : Option FTable → FTable × Option LoadErr
  | some t => (t, none)
  | none => ([], lines.findSome? (Gen7.lineErr v6))

def Gen7.toLoad : FTable × Option LoadErr → Option FTable
  | (t, none) => some t
  | (_, some _) => none

theorem Gen7.lineErr_isNone (v6 : Bool) (l : Line) :
    (Gen7.lineErr v6 l).isNone = FLine.ok v6 (Gen7.toFLine l) := by
  rcases l with ⟨len0, hash, n, mac, ip⟩
  cases len0 with
  | true => rfl
  | false =>
    cases hash with
    | true => rfl
    | false =>
      by_cases hn : n = 2
      · subst hn
        cases mac with
        | none => rfl
        | some m => cases v6 <;> cases ip <;> rfl
      · rw [show Gen7.lineErr v6 ⟨false, false, n, mac, ip⟩ = if n ≠ 2 then some .fieldCount else _ from rfl, if_pos hn,
          show FLine.ok v6 (Gen7.toFLine ⟨false, false, n, mac, ip⟩) = (n == 2 && mac.isSome && _) from rfl,
          beq_false_of_ne hn]
        rfl

/-- the body of the DHCPv4 line loop: the tests in the model's order, each with its error -/
theorem GEN_file_body4_eq (l : Line) (t : FTable) :
    GenFile.body4 l t =
      match Gen7.lineErr false l with
      | some e => .ret ([], some e)
      | none => .next ((Gen7.toFLine l).apply t) := by
  rcases l with ⟨len0, hash, n, mac, ip⟩
  cases len0 with
  | true => rfl
  | false =>
    cases hash with
    | true => rfl
    | false =>
      by_cases hn : n = 2
      · subst hn
        cases mac with
        | none => rfl
        | some m => cases ip <;> rfl
      · rw [show Gen7.lineErr false ⟨false, false, n, mac, ip⟩ = if n ≠ 2 then some .fieldCount else _ from rfl, if_pos hn]
        exact if_pos hn

theorem GEN_file_body6_eq (l : Line) (t : FTable) :
    GenFile.body6 l t =
      match Gen7.lineErr true l with
      | some e => .ret ([], some e)
      | none => .next ((Gen7.toFLine l).apply t) := by
  rcases l with ⟨len0, hash, n, mac, ip⟩
  cases len0 with
  | true => rfl
  | false =>
    cases hash with
    | true => rfl
    | false =>
      by_cases hn : n = 2
      · subst hn
        cases mac with
        | none => rfl
        | some m => cases ip <;> rfl
      · rw [show Gen7.lineErr true ⟨false, false, n, mac, ip⟩ = if n ≠ 2 then some .fieldCount else _ from rfl, if_pos hn]
        exact if_pos hn

/-- `loop4` / `loop6` are two generated definitions with the same text: the induction is stated once, over the
equations of such a loop (`hnil`, `hcons`) and of its body (`hbody`) -/
theorem Gen7.loop_eq (v6 : Bool) (body : Line → FTable → Flow) (loop : List Line → FTable → FTable × Option LoadErr)
    (hnil : ∀ t, loop [] t = (t, none))
    (hcons : ∀ l rest t, loop (l :: rest) t = match body l t with | .ret r => r | .next t' => loop rest t')
    (hbody : ∀ l t, body l t = match Gen7.lineErr v6 l with
      | some e => .ret ([], some e)
      | none => .next ((Gen7.toFLine l).apply t))
    (lines : List Line) :
    ∀ t : FTable, loop lines t = Gen7.ofLoad v6 lines (loadFile v6 (lines.map Gen7.toFLine) t) := by
  induction lines with
  | nil => exact hnil
  | cons l rest ih =>
    intro t
    rw [hcons, hbody, List.map_cons, FileAux.loadFile_cons, ← Gen7.lineErr_isNone]
    cases h : Gen7.lineErr v6 l with
    | some e => simp only [Gen7.ofLoad, List.findSome?_cons, h, Option.isNone_some, Bool.false_eq_true, if_false]
    | none =>
      show loop rest _ = _
      rw [ih]
      cases loadFile v6 (rest.map Gen7.toFLine) ((Gen7.toFLine l).apply t) <;>
        simp only [Gen7.ofLoad, List.findSome?_cons, h, Option.isNone_none, if_true]

theorem GEN_file_loop4_eq (lines : List Line) :
    ∀ t : FTable, GenFile.loop4 lines t =
      Gen7.ofLoad false lines (loadFile false (lines.map Gen7.toFLine) t) :=
  Gen7.loop_eq false GenFile.body4 GenFile.loop4 (fun _ => rfl) (fun _ _ _ => rfl) GEN_file_body4_eq lines

theorem GEN_file_loop6_eq (lines : List Line) :
    ∀ t : FTable, GenFile.loop6 lines t =
      Gen7.ofLoad true lines (loadFile true (lines.map Gen7.toFLine) t) :=
  Gen7.loop_eq true GenFile.body6 GenFile.loop6 (fun _ => rfl) (fun _ _ _ => rfl) GEN_file_body6_eq lines

theorem GEN_file_load4_eq (lines : List Line) :
    GenFile.loadDHCPv4Records (some lines) =
      Gen7.ofLoad false lines (loadFile false (lines.map Gen7.toFLine) []) :=
  GEN_file_loop4_eq lines []

theorem GEN_file_load6_eq (lines : List Line) :
    GenFile.loadDHCPv6Records (some lines) =
      Gen7.ofLoad true lines (loadFile true (lines.map Gen7.toFLine) []) :=
  GEN_file_loop6_eq lines []

theorem Gen7.rejected_has_error (v6 : Bool) (lines : List Line) :
    ∀ t, loadFile v6 (lines.map Gen7.toFLine) t = none → ∃ e, lines.findSome? (Gen7.lineErr v6) = some e := by
  induction lines with
  | nil => intro t h; cases h
  | cons l rest ih =>
    intro t h
    rw [List.map_cons, FileAux.loadFile_cons, ← Gen7.lineErr_isNone] at h
    rw [List.findSome?_cons]
    cases hl : Gen7.lineErr v6 l with
    | some e => exact ⟨e, rfl⟩
    | none => rw [hl] at h; exact ih _ h

theorem Gen7.toLoad_ofLoad (v6 : Bool) (lines : List Line) (t : FTable) :
    Gen7.toLoad (Gen7.ofLoad v6 lines (loadFile v6 (lines.map Gen7.toFLine) t)) =
      loadFile v6 (lines.map Gen7.toFLine) t := by
  cases h : loadFile v6 (lines.map Gen7.toFLine) t with
  | some t' => rfl
  | none =>
    obtain ⟨e, he⟩ := Gen7.rejected_has_error v6 lines t h
    simp only [Gen7.ofLoad, he, Gen7.toLoad]

/-- the same, read from the model's side: for model lines, through their view `Gen7.ofFLine` -/
theorem GEN_file_load4_model (lines : List FLine) :
    Gen7.toLoad (GenFile.loadDHCPv4Records (some (lines.map Gen7.ofFLine))) = loadFile false lines [] := by
  rw [GEN_file_load4_eq, Gen7.toLoad_ofLoad, Gen7.map_toFLine_ofFLine]

theorem GEN_file_load6_model (lines : List FLine) :
    Gen7.toLoad (GenFile.loadDHCPv6Records (some (lines.map Gen7.ofFLine))) = loadFile true lines [] := by
  rw [GEN_file_load6_eq, Gen7.toLoad_ofLoad, Gen7.map_toFLine_ofFLine]

/-- an unreadable file: the error of `os.ReadFile`, no table (the model has no such input) -/
theorem GEN_file_load_unreadable :
    GenFile.loadDHCPv4Records none = ([], some .readFile) ∧
    GenFile.loadDHCPv6Records none = ([], some .readFile) := ⟨rfl, rfl⟩

def Gen7.toF (S : State) : FState := ⟨S.t4, S.t6⟩

def Gen7.protver (v6 : Bool) : Nat := if v6 then 6 else 4

/-- the model's result of a load as `loadFromFile` leaves it: on success `StaticRecords` is the new table too,
on failure nothing changes and the loader's error comes back wrapped with the protocol number -/
def Gen7.ofLoadFrom (S : State) (v6 : Bool) (lines : List Line) : FState × Bool → State × Option LoadErr
  | (s, true) => (⟨s.t4, s.t6, s.table v6⟩, none)
  | (s, false) => (⟨s.t4, s.t6, S.static⟩,
      (lines.findSome? (Gen7.lineErr v6)).map (LoadErr.wrapped (Gen7.protver v6)))

theorem Gen7.loadFromFile_eq (S : State) (v6 : Bool) (file : Option (List Line)) :
    GenFile.loadFromFile S v6 file =
      match (if v6 then GenFile.loadDHCPv6Records file else GenFile.loadDHCPv4Records file) with
      | (_, some e) => (S, some (.wrapped (Gen7.protver v6) e))
      | (records, none) =>
        (if v6 then { S with t6 := records, static := records } else { S with t4 := records, static := records }, none) := by
  unfold GenFile.loadFromFile
  cases v6
  · rcases GenFile.loadDHCPv4Records file with ⟨records, _ | e⟩ <;> rfl
  · rcases GenFile.loadDHCPv6Records file with ⟨records, _ | e⟩ <;> rfl

theorem GEN_file_loadFromFile_eq (S : State) (v6 : Bool) (lines : List Line) :
    GenFile.loadFromFile S v6 (some lines) =
      Gen7.ofLoadFrom S v6 lines ((Gen7.toF S).load v6 (lines.map Gen7.toFLine)) := by
  have hl : (if v6 then GenFile.loadDHCPv6Records (some lines) else GenFile.loadDHCPv4Records (some lines)) =
      Gen7.ofLoad v6 lines (loadFile v6 (lines.map Gen7.toFLine) []) := by
    cases v6
    · exact GEN_file_load4_eq lines
    · exact GEN_file_load6_eq lines
  rw [Gen7.loadFromFile_eq, hl]
  cases h : loadFile v6 (lines.map Gen7.toFLine) [] with
  | some t => rw [FileAux.load_of_some _ h]; cases v6 <;> rfl
  | none =>
    obtain ⟨e, he⟩ := Gen7.rejected_has_error v6 lines [] h
    rw [FileAux.load_of_none _ h]
    simp only [Gen7.ofLoad, Gen7.ofLoadFrom, he]
    rfl

/-- read from the model's side: the per-protocol tables afterwards and whether it succeeded -/
theorem GEN_file_loadFromFile_model (S : State) (v6 : Bool) (lines : List Line) :
    (Gen7.toF (GenFile.loadFromFile S v6 (some lines)).1, (GenFile.loadFromFile S v6 (some lines)).2.isNone) =
      (Gen7.toF S).load v6 (lines.map Gen7.toFLine) := by
  rw [GEN_file_loadFromFile_eq]
  -- the split is for the error component only: a rejected file does have an error
  cases h : loadFile v6 (lines.map Gen7.toFLine) [] with
  | some t => rw [FileAux.load_of_some _ h]; rfl
  | none =>
    obtain ⟨e, he⟩ := Gen7.rejected_has_error v6 lines [] h
    rw [FileAux.load_of_none _ h]
    simp only [Gen7.ofLoadFrom, he]
    rfl

/-- an unreadable file: nothing changes (the model has no such input; `setupFile` fails, a refresh is skipped) -/
theorem GEN_file_loadFromFile_unreadable (S : State) (v6 : Bool) :
    GenFile.loadFromFile S v6 none = (S, some (.wrapped (Gen7.protver v6) .readFile)) := by
  cases v6 <;> rfl

/-- all-or-nothing, on the generated definition alone: an error leaves all three tables as they were -/
theorem GEN_file_loadFromFile_error_unchanged (S : State) (v6 : Bool) (file : Option (List Line))
    (h : (GenFile.loadFromFile S v6 file).2 ≠ none) : (GenFile.loadFromFile S v6 file).1 = S := by
  rw [Gen7.loadFromFile_eq] at h ⊢
  split
  · rfl
  · next heq => rw [heq] at h; exact absurd rfl h

def Gen7.famOK : Bool → IPKind → Bool
  | false, .v4 _ => true
  | true, .v6 _ => true
  | _, _ => false

def Gen7.Fam (v6 : Bool) (t : FTable) : Prop := ∀ p ∈ t, Gen7.famOK v6 p.2 = true

theorem Gen7.fam_nil (v6 : Bool) : Gen7.Fam v6 [] := by
  intro p hp; cases hp

theorem Gen7.fam_put (v6 : Bool) (t : FTable) (m : List Nat) (ip : IPKind)
    (ht : Gen7.Fam v6 t) (hip : Gen7.famOK v6 ip = true) : Gen7.Fam v6 (t.put m ip) := by
  intro p hp
  unfold FTable.put at hp
  rcases List.mem_cons.mp hp with h | h
  · subst h; exact hip
  · exact ht p (List.mem_filter.mp h).1

theorem Gen7.fam_get (v6 : Bool) (t : FTable) (m : List Nat) (ip : IPKind)
    (ht : Gen7.Fam v6 t) (h : t.get m = some ip) : Gen7.famOK v6 ip = true := by
  obtain ⟨p, hp, rfl⟩ := Option.map_eq_some_iff.mp h
  exact ht p (List.mem_of_find?_eq_some hp)

theorem Gen7.fam_apply (v6 : Bool) (l : FLine) (t : FTable) (hl : FLine.ok v6 l = true) (ht : Gen7.Fam v6 t) :
    Gen7.Fam v6 (l.apply t) := by
  cases l with
  | fields n mac ip =>
    cases mac with
    | none => exact ht
    -- the last conjunct of `FLine.ok` is `famOK v6 ip`
    | some m => exact Gen7.fam_put _ _ _ _ ht ((Bool.and_eq_true _ _).mp hl).2
  | _ => exact ht

theorem Gen7.fam_load (v6 : Bool) (lines : List FLine) :
    ∀ acc t, loadFile v6 lines acc = some t → Gen7.Fam v6 acc → Gen7.Fam v6 t := by
  induction lines with
  | nil =>
    intro acc t h hacc
    cases h
    exact hacc
  | cons l rest ih =>
    intro acc t h hacc
    rw [FileAux.loadFile_cons] at h
    cases hl : FLine.ok v6 l with
    | false => rw [hl] at h; cases h
    | true => rw [hl] at h; exact ih _ t h (Gen7.fam_apply v6 l acc hl hacc)

def Gen7.Wf (s : FState) : Prop := Gen7.Fam false s.t4 ∧ Gen7.Fam true s.t6

theorem Gen7.wf_init : Gen7.Wf {} := ⟨Gen7.fam_nil _, Gen7.fam_nil _⟩

theorem Gen7.wf_load (s : FState) (v6 : Bool) (lines : List FLine) (h : Gen7.Wf s) :
    Gen7.Wf (s.load v6 lines).1 := by
  cases hl : loadFile v6 lines [] with
  | none => rw [FileAux.load_of_none s hl]; exact h
  | some t =>
    rw [FileAux.load_of_some s hl]
    have ht := Gen7.fam_load v6 lines [] t hl (Gen7.fam_nil _)
    cases v6
    · exact ⟨ht, h.2⟩
    · exact ⟨h.1, ht⟩

/-- `FReply4` as `handle4` returns it: the address goes into `YourIPAddr` and the chain stops; otherwise the
response comes back as it was and the chain goes on -/
def Gen7.ofReply4 : FReply4 → Out4
  | .yiaddr a => (some (.yiaddr (.v4 a)), true)
  | .pass => (some .unchanged, false)

theorem GEN_file_handle4_raw (t : FTable) (mac : List Nat) :
    GenFile.handle4 t ⟨mac⟩ =
      match t.get mac with
      | none => (some .unchanged, false)
      | some ip => (some (.yiaddr ip), true) := rfl

theorem GEN_file_handle4_eq (s : FState) (mac : List Nat) (h : Gen7.Fam false s.t4) :
    GenFile.handle4 s.t4 ⟨mac⟩ = Gen7.ofReply4 (s.query4 mac) := by
  rw [GEN_file_handle4_raw]
  unfold FState.query4
  cases hg : s.t4.get mac with
  | none => rfl
  | some ip =>
    have hf := Gen7.fam_get false _ _ _ h hg
    cases ip with
    | v4 a => rfl
    | _ => cases hf

/-- the handler `setup4` registers serves from DHCPv4Records -/
theorem GEN_file_served4_eq (S : State) (mac : List Nat) (h : Gen7.Fam false S.t4) :
    GenFile.served4 S ⟨mac⟩ = Gen7.ofReply4 ((Gen7.toF S).query4 mac) :=
  GEN_file_handle4_eq (Gen7.toF S) mac h

/-- outside the invariant code and model differ: an entry that is not an IPv4 address (no loader stores one
in DHCPv4Records) goes into `YourIPAddr` and stops the chain, the model passes -/
theorem GEN_file_handle4_other (s : FState) (mac : List Nat) (ip : IPKind)
    (hg : s.t4.get mac = some ip) (hip : Gen7.famOK false ip = false) :
    GenFile.handle4 s.t4 ⟨mac⟩ = (some (.yiaddr ip), true) ∧ s.query4 mac = .pass := by
  rw [GEN_file_handle4_raw]
  unfold FState.query4
  rw [hg]
  cases ip with
  | v4 a => cases hip
  | _ => exact ⟨rfl, rfl⟩

/-- `FReply6` as `handle6` returns it: an IA_NA with the address and both lifetimes 3600 s is added; the
chain goes on in either case -/
def Gen7.ofReply6 : FReply6 → Out6
  | .iana a => (some (.iana (.v6 a) 3600 3600), false)
  | .pass => (some .unchanged, false)

theorem GEN_file_handle6_raw (t : FTable) (hasIANA : Bool) (mac : Option (List Nat)) :
    GenFile.handle6 t ⟨some ⟨hasIANA⟩, mac⟩ =
      if hasIANA = false then (some .unchanged, false)
      else match mac with
        | none => (some .unchanged, false)
        | some m =>
          match t.get m with
          | none => (some .unchanged, false)
          | some ip => (some (.iana ip 3600 3600), false) := rfl

theorem GEN_file_handle6_eq (s : FState) (hasIANA : Bool) (mac : Option (List Nat)) (h : Gen7.Fam true s.t6) :
    GenFile.handle6 s.t6 ⟨some ⟨hasIANA⟩, mac⟩ = Gen7.ofReply6 (s.query6 hasIANA mac) := by
  rw [GEN_file_handle6_raw]
  unfold FState.query6
  cases hasIANA
  · rfl
  · cases mac with
    | none => rfl
    | some m =>
      simp only [Bool.true_eq_false, if_false, Bool.not_true]
      cases hg : s.t6.get m with
      | none => rfl
      | some ip =>
        have hf := Gen7.fam_get true _ _ _ h hg
        cases ip with
        | v6 a => rfl
        | _ => cases hf

/-- the handler `setup6` registers serves from DHCPv6Records -/
theorem GEN_file_served6_eq (S : State) (hasIANA : Bool) (mac : Option (List Nat)) (h : Gen7.Fam true S.t6) :
    GenFile.served6 S ⟨some ⟨hasIANA⟩, mac⟩ = Gen7.ofReply6 ((Gen7.toF S).query6 hasIANA mac) :=
  GEN_file_handle6_eq (Gen7.toF S) hasIANA mac h

/-- no inner message: no response, chain stopped (the model has no such input: server/handle.go drops such a
packet before any handler runs) -/
theorem GEN_file_handle6_undecapsulated (t : FTable) (mac : Option (List Nat)) :
    GenFile.handle6 t ⟨none, mac⟩ = (none, true) := rfl

/-- outside the invariant code and model differ: an entry that is not an IPv6 address is offered, the model passes -/
theorem GEN_file_handle6_other (s : FState) (m : List Nat) (ip : IPKind)
    (hg : s.t6.get m = some ip) (hip : Gen7.famOK true ip = false) :
    GenFile.handle6 s.t6 ⟨some ⟨true⟩, some m⟩ = (some (.iana ip 3600 3600), false) ∧
      s.query6 true (some m) = .pass := by
  rw [GEN_file_handle6_raw]
  unfold FState.query6
  cases ip with
  | v6 a => cases hip
  | _ => simp only [Bool.true_eq_false, Bool.false_eq_true, if_false, Bool.not_true, hg, and_self]

/-- the exported `Handler4` / `Handler6` read `StaticRecords`, the table loaded last -/
theorem GEN_file_exported (S : State) (r4 : Req4) (r6 : Req6) :
    GenFile.handler4 S r4 = GenFile.handle4 S.static r4 ∧ GenFile.handler6 S r6 = GenFile.handle6 S.static r6 :=
  ⟨rfl, rfl⟩

/-- after a successful load `StaticRecords` is the table just loaded -/
theorem GEN_file_static_after_load (S : State) (v6 : Bool) (lines : List Line) (t : FTable)
    (h : loadFile v6 (lines.map Gen7.toFLine) [] = some t) :
    (GenFile.loadFromFile S v6 (some lines)).1.static = t := by
  rw [GEN_file_loadFromFile_eq, FileAux.load_of_some _ h]
  exact FileAux.table_setTable _ v6 t

end CoreDhcp
