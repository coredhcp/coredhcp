/-
C14 — With server_id configured, replies carry this server's identity, and requests meant for
another server are discarded.
-/
import CoreDhcp.Proofs.OptPlug
namespace CoreDhcp
open Plug

/-- DHCPv6: for every DUID, inner message and response built so far (holding at most one Server
Identifier, as every response the server constructs does): the message is discarded — nil response,
chain ended — exactly in the cases of RFC 8415 §16 (`C14.mustDiscard6`), and otherwise the reply
carries exactly one Server Identifier, the configured DUID, with everything else unchanged. -/
theorem C14_v6 (duid : Bytes) (req : ReqView6) (pre : Resp6) (hd : C17.count 2 pre.opts ≤ 1) :
    C14.holds6 duid req pre (serverid6.handle duid req pre) = true := by
  rw [C14.holds6.eq_def, serverid6_handle_eq]
  cases C14.mustDiscard6 req.mt (C14.rel6 duid req) with
  | true => simp only [if_true, beq_self_eq_true]
  | false => exact setOnly6_update pre 2 duid hd

/-- The RFC 8415 §16 matrix, enumerated: for all 256 message types and a request without Server
Identifier / with this server's / with another one, the model discards exactly REQUEST, RENEW,
RELEASE, DECLINE (3, 5, 8, 9) / SOLICIT, CONFIRM, REBIND (1, 4, 6) / everything. -/
theorem C14_v6_matrix :
    (List.range 256).all (fun t =>
      let own : Bytes := [0, 3, 0, 1, 0, 17, 34, 51, 68, 85]
      let other : Bytes := [0, 3, 0, 1, 0, 1, 2, 3, 4, 9]
      let pre : Resp6 := ⟨7, [(1, [254])]⟩
      let drops (sid : Option Bytes) : Bool :=
        (serverid6.handle own ⟨0, t, (1, [254]) :: (match sid with | some s => [(2, s)] | none => [])⟩ pre).1.isNone
      (drops none == [3, 5, 8, 9].contains t) && (drops (some own) == [1, 4, 6].contains t) && drops (some other)) = true := by
  decide +kernel

theorem C14_v6_matrix_all (t : Nat) (ht : t < 256) :
    let own : Bytes := [0, 3, 0, 1, 0, 17, 34, 51, 68, 85]
    let other : Bytes := [0, 3, 0, 1, 0, 1, 2, 3, 4, 9]
    let pre : Resp6 := ⟨7, [(1, [254])]⟩
    let drops (sid : Option Bytes) : Bool :=
      (serverid6.handle own ⟨0, t, (1, [254]) :: (match sid with | some s => [(2, s)] | none => [])⟩ pre).1.isNone
    ((drops none == [3, 5, 8, 9].contains t) && (drops (some own) == [1, 4, 6].contains t) && drops (some other)) = true :=
  List.all_eq_true.mp C14_v6_matrix t (List.mem_range.mpr ht)

/-- The DUID the accepted configuration stands for: DUID-LL or DUID-LLT (time 0) over Ethernet
with the MAC address `net.ParseMAC` read from the second argument. -/
theorem C14_v6_duid_of_setup (args : List ArgOracle) (duid : Bytes) (h : serverid6.setup args = .ok duid) :
    ∃ t v rest mac, args = t :: v :: rest ∧ v.mac = some mac ∧ (duid = encDuidLL mac ∨ duid = encDuidLLT mac) :=
  serverid6_setup_ok args duid h

/-- DHCPv4: a BOOTREQUEST is discarded — nil response, chain ended — iff it names another server
in siaddr or in a four byte option 54 (non-zero and different from the configured address);
every other BOOTREQUEST's reply has siaddr and option 54 set to the configured address and is
otherwise unchanged. -/
theorem C14_v4 (addr : Bytes) (req : ReqView4) (pre : Resp4) :
    C14.holds4 addr req pre (serverid4.handle addr req pre) = true := by
  rw [C14.holds4.eq_def, serverid4_handle_eq]
  by_cases hop : req.op = 1
  · rw [if_neg (not_not_intro hop)]
    cases C14.namesOther4 addr req with
    | true => rfl
    | false => simp only [Bool.false_eq_true, if_false, stamped4_update, Bool.or_true]
  · -- not a BOOTREQUEST: it names no other server, it is handed on, and nothing is claimed of the response
    have hn : C14.namesOther4 addr req = false := by
      rw [C14.namesOther4, beq_eq_false_iff_ne.mpr hop, Bool.false_and]
    rw [if_pos hop, hn, if_neg Bool.false_ne_true]
    exact Bool.or_eq_true_iff.mpr (.inl (bne_iff_ne.mpr hop))

/-- the configured address is `net.ParseIP(args[0]).To4()` -/
theorem C14_v4_addr_of_setup (args : List ArgOracle) (addr : Bytes) (h : serverid4.setup args = .ok addr) :
    ∃ a rest ip, args = a :: rest ∧ a.ip = some ip ∧ ip.to4 = some addr := serverid4_setup_ok args addr h

/-- non-vacuity: a RENEW naming this server is stamped, a RENEW naming another is discarded -/
example : serverid6.handle [0, 3, 0, 1, 1, 2, 3, 4, 5, 6] ⟨0, 5, [(1, [9]), (2, [0, 3, 0, 1, 1, 2, 3, 4, 5, 6])]⟩ ⟨7, [(1, [9])]⟩ =
    (some ⟨7, [(1, [9]), (2, [0, 3, 0, 1, 1, 2, 3, 4, 5, 6])]⟩, false) := by decide
example : serverid6.handle [0, 3, 0, 1, 1, 2, 3, 4, 5, 6] ⟨0, 5, [(1, [9]), (2, [0, 3, 0, 1, 1, 2, 3, 4, 5, 7])]⟩ ⟨7, [(1, [9])]⟩ =
    (none, true) := by decide

end CoreDhcp
