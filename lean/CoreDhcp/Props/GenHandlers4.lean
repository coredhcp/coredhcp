/-
GEN (DHCPv4 handlers of the option plugins; unit `handlers4` of DESIGN.md §1.5b) — Generated/Handlers4.lean, regenerated
on every run from the go/ast of the `Handler4` functions of the twelve plugins, is equal to the hand-written model
`Plug.<plugin>.handle` that C17 and C14 are about: `GenH4.<plugin> cfg req pre = Plug.<plugin>.handle cfg req pre`.

Two statements have another shape. nbp: the Go handler starts with `if opt67 == nil { return resp, true }` and the generated
definition takes both pointers as `Option Bytes`; the model's configuration always has an option 67 (`setup4` stores one
before it returns the handler), so the equality is stated at `some cfg.o67` and `GEN_h4_nbp_unset` says what the code does
for nil. serverid: the translator assumes the guard `if v4ServerID == nil { log.Fatal(…) }` away (recorded in the generated file).

The vocabulary (`requested4`, `listed4`, `lookup`, `update`, `sid54`, `clientSent`, the encoders) is fixed in gen5.go; control
flow, which condition guards which update, the option codes, which value goes through which encoder and the returned pair
are derived from the source, and are what the theorems compare.
-/
import CoreDhcp.Generated.Handlers4
namespace CoreDhcp
open Plug

theorem GEN_h4_mtu_eq (cfg : Int) (req : ReqView4) (pre : Resp4) :
    GenH4.mtu cfg req pre = Plug.mtu.handle cfg req pre := rfl

theorem GEN_h4_netmask_eq (cfg : Bytes) (req : ReqView4) (pre : Resp4) :
    GenH4.netmask cfg req pre = Plug.netmask.handle cfg req pre := rfl

theorem GEN_h4_router_eq (cfg : List Bytes) (req : ReqView4) (pre : Resp4) :
    GenH4.router cfg req pre = Plug.router.handle cfg req pre := rfl

theorem GEN_h4_dns_eq (cfg : List Bytes) (req : ReqView4) (pre : Resp4) :
    GenH4.dns cfg req pre = Plug.dns4.handle cfg req pre := rfl

theorem GEN_h4_searchdomains_eq (cfg : List Bytes) (req : ReqView4) (pre : Resp4) :
    GenH4.searchdomains cfg req pre = Plug.search.handle4 cfg req pre := rfl

theorem GEN_h4_sleep_eq (cfg : Int) (req : ReqView4) (pre : Resp4) :
    GenH4.sleep cfg req pre = Plug.sleep.handle4 cfg req pre := rfl

/-- the code tests `!resp.Options.Has(51)` and updates, the model tests `Has` and keeps -/
theorem GEN_h4_leasetime_eq (cfg : Int) (req : ReqView4) (pre : Resp4) :
    GenH4.leasetime cfg req pre = Plug.leasetime.handle cfg req pre := by
  unfold GenH4.leasetime Plug.leasetime.handle
  simp only [ite_not]

/-- the code tests `len(routes) > 0`, the model `cfg = []` -/
theorem GEN_h4_staticroute_eq (cfg : List Route) (req : ReqView4) (pre : Resp4) :
    GenH4.staticroute cfg req pre = Plug.staticroute.handle cfg req pre := by
  cases cfg <;> rfl

theorem GEN_h4_ipv6only_eq (cfg : Int) (req : ReqView4) (pre : Resp4) :
    GenH4.ipv6only cfg req pre = Plug.ipv6only.handle cfg req pre := rfl

theorem GEN_h4_autoconfigure_eq (cfg : Nat) (req : ReqView4) (pre : Resp4) :
    GenH4.autoconfigure cfg req pre = Plug.autoconfigure.handle cfg req pre := rfl

/-- `req.ServerIPAddr != nil` is `True` for a parsed request; `sid != nil && …` on the `Option` that
`req.ServerIdentifier()` is in the model is the model's `match`. -/
theorem GEN_h4_serverid_eq (cfg : Bytes) (req : ReqView4) (pre : Resp4) :
    GenH4.serverid cfg req pre = Plug.serverid4.handle cfg req pre := by
  unfold GenH4.serverid Plug.serverid4.handle
  cases h : Plug.serverid4.sid54 req with
  | none =>
    simp only [true_and, Option.isSome_none, Bool.false_eq_true, false_and, if_false, ne_eq]
  | some s =>
    simp only [true_and, Option.isSome_some, GenH4.deref, Option.getD_some, ne_eq]

theorem GEN_h4_nbp_eq (cfg : nbp4.Cfg) (req : ReqView4) (pre : Resp4) :
    GenH4.nbp cfg.o66 (some cfg.o67) req pre = Plug.nbp4.handle cfg req pre := by
  unfold GenH4.nbp Plug.nbp4.handle
  cases cfg.o66 with
  | none =>
    simp only [Option.isSome_none, Option.isSome_some, Bool.false_eq_true, and_false, not_true_eq_false,
      if_false, GenH4.deref, Option.getD_some]
  | some v =>
    simp only [Option.isSome_some, and_true, not_true_eq_false, if_false, GenH4.deref, Option.getD_some]

/-- not in the model: with a nil `opt67` (the handler used before `setup4` ran) the code ends the
chain with the response untouched -/
theorem GEN_h4_nbp_unset (o66 : Option Bytes) (req : ReqView4) (pre : Resp4) :
    GenH4.nbp o66 none req pre = (some pre, true) := rfl

end CoreDhcp
