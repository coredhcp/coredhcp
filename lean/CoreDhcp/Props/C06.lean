/-
C06 — Free releases exactly the named outstanding block, or fails without effect.
The monitor this theorem is about is the `c06` component of `Mon6.step` / `Mon4.step` (Spec/Alloc.lean).
-/
import CoreDhcp.Proofs.Alloc6
import CoreDhcp.Proofs.Alloc4
namespace CoreDhcp

theorem C06_alloc6 (p : Pool6) (hp : p.WF) (a : A6) (hnew : A6.new p = .ok a)
    (ops : List Op6) (cs : List (Option Nat)) (evs : List Ev6) (z : A6)
    (hdom : ops.all (Op6.inDomain p) = true) (hrun : A6.run a ops cs = some (evs, z)) :
    C06.holds6 p evs = true :=
  (Verdict.all_proj (A6.run_verdicts p hp a hnew ops cs evs z hdom hrun)).2.2.1

theorem C06_alloc4 (s e : BitVec 32) (a : A4) (hnew : A4.new (some s) (some e) = .ok a)
    (ops : List Op4) (cs : List (Option Nat)) (evs : List Ev4) (z : A4)
    (hrun : A4.run a ops cs = some (evs, z)) :
    C06.holds4 s e evs = true :=
  (Verdict.all_proj (A4.run_verdicts s e a hnew ops cs evs z hrun)).2.2.1

/-- a failing Free leaves the allocator exactly as it was -/
theorem C06_error_unchanged6 (a : A6) (ip : Addr) (ones : Nat) (e : FErr)
    (hr : (a.free ip ones).2 = .error e) : (a.free ip ones).1 = a := by
  rcases a.free_cases ip ones with ⟨h, _⟩ | ⟨d, _, _, ⟨_, h⟩ | ⟨_, h⟩⟩
  · rw [h]
  · rw [h]
  · rw [h] at hr
    cases hr

theorem C06_error_unchanged4 (a : A4) (ip : Option (BitVec 32))
    (hr : (a.free ip).2 ≠ .ok) : (a.free ip).1 = a := by
  rcases a.free_cases ip with ⟨h, _⟩ | ⟨o, _, ⟨_, h⟩ | ⟨_, h⟩⟩
  · rw [h]
  · rw [h]
  · rw [h] at hr
    exact absurd rfl hr

/-- D2 (repaired by a `fix:` commit): `Free` as it was — no containment check, absolute distance —
releases block 2 of the pool 2001:db8:0:100::/56 when asked to free 2001:db8:0:fe::/64, two blocks
below the base. The same history is in the conformance corpus. -/
theorem C06_D2_prefix_refuted :
    let p : Pool6 := ⟨⟨0x20010db800000100#64, 0#64⟩, 56, 64⟩
    let a : A6 := ⟨p, ⟨[true, true, true] ++ List.replicate 253 false⟩⟩
    ((a.freePreFix ⟨0x20010db8000000fe#64, 0#64⟩ 64).2 = .ok ()) ∧
    ((a.freePreFix ⟨0x20010db8000000fe#64, 0#64⟩ 64).1.bm.test 2 = false) ∧
    ((a.free ⟨0x20010db8000000fe#64, 0#64⟩ 64).2 = .error .notFound) := by
  refine ⟨?_, ?_, ?_⟩ <;> rfl

end CoreDhcp
