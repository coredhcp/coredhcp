/-
GEN (plugin loader) — the definitions regenerated from the Go source on every run
(Generated/LoadPlugins.lean, written by `harness gen -unit loadplugins` from the go/ast of
plugins/plugin.go: LoadPlugins) are equal to the hand-written model (Model/Plugins.lean: `loadChain`,
`loadPlugins`) that the loading theorems of C13 are about. The translator: DESIGN.md §1.5b.

The generated side keeps what Go has and the model drops:
  * a handler value can be nil, so the chains are `List (Option H)`; the model's chains are `List H`
    (the code never appends a nil handler — that is part of what is proved here);
  * the error values are told apart by their text (`DHCPv6: unknown plugin` / `DHCPv4: unknown plugin`, …),
    the model's `LoadErr` has one constructor for both protocols;
  * the code APPENDS to an accumulator while it walks the list (`hs ++ [h]`), the model conses on the way
    back (`h :: hs`), hence the statements for any accumulator.

So the model's results are embedded into the generated side's (`Gen6.ofChain`, injective) and the chain
theorems read "generated loop = embedding (model function)". For `LoadPlugins` as a whole the model's error
does not say which protocol it comes from: `GEN_lp_load_eq` compares in the common type
`Except LoadErr (List (Option H4) × List (Option H6))`, `GEN_lp_load_tagged` drops nothing on either side.

`Gen6.` marks this file's own definitions (6 after harness/gen6.go, the translator of this unit; the generated
definitions are in `GenLP`; a trailing 4 or 6 is the protocol; `Gen6.chainOf` is in Proofs/Dispatch.lean).
-/
import CoreDhcp.Generated.LoadPlugins
import CoreDhcp.Proofs.Dispatch
namespace CoreDhcp
open GenLP (Err Step)

/-- the model's error of the DHCPv6 chain as the error value the code returns there -/
def Gen6.ofErr6 : LoadErr → Err
  | .noConfig => .noConfig
  | .unknown n => .unknown6 n
  | .setup n => .setupErr n ()
  | .nilHandler n => .noHandler6 n

def Gen6.ofErr4 : LoadErr → Err
  | .noConfig => .noConfig
  | .unknown n => .unknown4 n
  | .setup n => .setupErr n ()
  | .nilHandler n => .noHandler4 n

/-- the way back: forgets which protocol the text names -/
def Gen6.toErr : Err → LoadErr
  | .noConfig => .noConfig
  | .unknown6 n => .unknown n
  | .unknown4 n => .unknown n
  | .noHandler6 n => .nilHandler n
  | .noHandler4 n => .nilHandler n
  | .setupErr n _ => .setup n

theorem Gen6.toErr_ofErr6 (e : LoadErr) : Gen6.toErr (Gen6.ofErr6 e) = e := by cases e <;> rfl
theorem Gen6.toErr_ofErr4 (e : LoadErr) : Gen6.toErr (Gen6.ofErr4 e) = e := by cases e <;> rfl

/-- the model's result of one chain as the outcome of the generated loop started with `acc` -/
def Gen6.ofChain {H : Type} (f : LoadErr → Err) (acc : List (Option H)) :
    Except LoadErr (List H) → Step (List (Option H))
  | .ok hs => .next (acc ++ hs.map some)
  | .error e => .ret (f e)

theorem Gen6.ofChain_inj {H : Type} (f : LoadErr → Err) (hf : ∀ e, Gen6.toErr (f e) = e)
    (a b : Except LoadErr (List H)) (h : Gen6.ofChain f [] a = Gen6.ofChain f [] b) : a = b := by
  cases a with
  | error ea =>
    cases b with
    | error eb =>
      rw [← hf ea, ← hf eb, Step.ret.inj h]
    | ok hb => cases h
  | ok ha =>
    cases b with
    | error eb => cases h
    | ok hb =>
      rw [(List.map_inj_right fun _ _ => Option.some.inj).mp (Step.next.inj h)]

def Gen6.ofLoad {H4 H6 : Type} :
    Except LoadErr (List H4 × List H6) → Except LoadErr (List (Option H4) × List (Option H6))
  | .ok (a, b) => .ok (a.map some, b.map some)
  | .error e => .error e

def Gen6.view {α : Type} : Except Err α → Except LoadErr α
  | .ok v => .ok v
  | .error e => .error (Gen6.toErr e)

/-- `hnil`, `hcons`, `hbody`: the loop and its round in the shape the translator prints, the errors named by `f`;
for the generated loops they hold by `rfl` -/
theorem Gen6.loop_acc {H : Type} (reg : Registry H) (f : LoadErr → Err)
    (body : List (Option H) → String × List String → Step (List (Option H)))
    (loop : List (Option H) → List (String × List String) → Step (List (Option H)))
    (hnil : ∀ acc, loop acc [] = .next acc)
    (hcons : ∀ acc p rest, loop acc (p :: rest) =
      match body acc p with
      | .ret e => .ret e
      | .next acc' => loop acc' rest)
    (hbody : ∀ acc p, body acc p =
      match reg p.1 with
      | none => .ret (f (.unknown p.1))
      | some x =>
        match x with
        | none => .next acc
        | some g =>
          match g p.2 with
          | .error _ => .ret (f (.setup p.1))
          | .ok o =>
            match o with
            | none => .ret (f (.nilHandler p.1))
            | some h => .next (acc ++ [some h]))
    (acc : List (Option H)) (ps : List (String × List String)) :
    loop acc ps = Gen6.ofChain f acc (loadChain reg ps) := by
  induction ps generalizing acc with
  | nil => rw [hnil]; exact congrArg Step.next (List.append_nil acc).symm
  | cons p rest ih =>
    obtain ⟨name, args⟩ := p
    rw [hcons, hbody, loadChain_cons]
    dsimp only
    cases reg name with
    | none => rfl
    | some o =>
      cases o with
      | none => exact ih acc
      | some g =>
        dsimp only
        cases g args with
        | error e => rfl
        | ok o =>
          cases o with
          | none => rfl
          | some h =>
            dsimp only
            rw [ih]
            cases loadChain reg rest with
            | error e => rfl
            | ok hs => exact congrArg Step.next (List.append_assoc acc [some h] (hs.map some))

theorem GEN_lp_loop6_acc {H : Type} (reg : Registry H) (acc : List (Option H)) (ps : List (String × List String)) :
    GenLP.loop6 reg acc ps = Gen6.ofChain Gen6.ofErr6 acc (loadChain reg ps) :=
  Gen6.loop_acc reg Gen6.ofErr6 (GenLP.body6 reg) (GenLP.loop6 reg) (fun _ => rfl) (fun _ _ _ => rfl) (fun _ _ => rfl)
    acc ps

theorem GEN_lp_loop4_acc {H : Type} (reg : Registry H) (acc : List (Option H)) (ps : List (String × List String)) :
    GenLP.loop4 reg acc ps = Gen6.ofChain Gen6.ofErr4 acc (loadChain reg ps) :=
  Gen6.loop_acc reg Gen6.ofErr4 (GenLP.body4 reg) (GenLP.loop4 reg) (fun _ => rfl) (fun _ _ _ => rfl) (fun _ _ => rfl)
    acc ps

/-- the loop as `LoadPlugins` starts it (`make(…, 0)`) -/
theorem GEN_lp_chain6_eq {H : Type} (reg : Registry H) (ps : List (String × List String)) :
    GenLP.loop6 reg [] ps = Gen6.ofChain Gen6.ofErr6 [] (loadChain reg ps) := GEN_lp_loop6_acc reg [] ps

theorem GEN_lp_chain4_eq {H : Type} (reg : Registry H) (ps : List (String × List String)) :
    GenLP.loop4 reg [] ps = Gen6.ofChain Gen6.ofErr4 [] (loadChain reg ps) := GEN_lp_loop4_acc reg [] ps

/-- `LoadPlugins`, exact form: the nil-configuration test, then the model's DHCPv6 chain, then its DHCPv4
chain — when both chains fail, the error is the DHCPv6 one. -/
theorem GEN_lp_load_tagged {H4 H6 : Type} (reg4 : Registry H4) (reg6 : Registry H6)
    (s4 s6 : Option (List (String × List String))) :
    GenLP.loadPlugins reg4 reg6 s4 s6 =
      if s4.isNone && s6.isNone then .error .noConfig
      else
        match Gen6.ofChain Gen6.ofErr6 [] (Gen6.chainOf reg6 s6) with
        | .ret e => .error e
        | .next h6 =>
          match Gen6.ofChain Gen6.ofErr4 [] (Gen6.chainOf reg4 s4) with
          | .ret e => .error e
          | .next h4 => .ok (h4, h6) := by
  unfold GenLP.loadPlugins
  simp only [GEN_lp_chain6_eq, GEN_lp_chain4_eq]
  cases s6 <;> cases s4 <;> rfl

/-- `LoadPlugins` is the model's `loadPlugins`: the same handlers in the same order in both chains, the same
error of the same plugin. In the common type: the generated errors as `LoadErr`, the model's handlers as
non-nil handler values. -/
theorem GEN_lp_load_eq {H4 H6 : Type} (reg4 : Registry H4) (reg6 : Registry H6)
    (s4 s6 : Option (List (String × List String))) :
    Gen6.view (GenLP.loadPlugins reg4 reg6 s4 s6) = Gen6.ofLoad (loadPlugins reg4 reg6 s4 s6) := by
  rw [GEN_lp_load_tagged, loadPlugins_chainOf]
  split
  · rfl
  · cases Gen6.chainOf reg6 s6 with
    | error e => exact congrArg Except.error (Gen6.toErr_ofErr6 e)
    | ok h6 =>
      cases Gen6.chainOf reg4 s4 with
      | error e => exact congrArg Except.error (Gen6.toErr_ofErr4 e)
      | ok h4 => rfl

/-- the handlers the code returns are never nil, and an error of the code is an error of the model -/
theorem GEN_lp_load_ok {H4 H6 : Type} (reg4 : Registry H4) (reg6 : Registry H6)
    (s4 s6 : Option (List (String × List String))) (a : List (Option H4)) (b : List (Option H6)) :
    GenLP.loadPlugins reg4 reg6 s4 s6 = .ok (a, b) ↔
      ∃ h4 h6, loadPlugins reg4 reg6 s4 s6 = .ok (h4, h6) ∧ a = h4.map some ∧ b = h6.map some := by
  have h := GEN_lp_load_eq reg4 reg6 s4 s6
  constructor
  · intro hg
    rw [hg] at h
    unfold Gen6.ofLoad at h
    split at h
    · next h4 h6 hm => cases h; exact ⟨h4, h6, hm, rfl, rfl⟩
    · cases h
  · rintro ⟨h4, h6, hm, rfl, rfl⟩
    rw [hm] at h
    unfold Gen6.view at h
    split at h
    · next v hg => rw [hg]; exact congrArg Except.ok (Except.ok.inj h)
    · cases h

end CoreDhcp
