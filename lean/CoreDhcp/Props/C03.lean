/-
C03 — The lease database the server wrote always restores the same bindings.
-/
import CoreDhcp.Proofs.Range
namespace CoreDhcp

/-- At every restart point of every history the restart succeeds, the restarted instance serves
every client bound so far its address and gives no bound address to anybody else; and after
every reply the stored expiry is not earlier than the end of the promised lease minus the
store's one-second resolution. -/
theorem C03_holds (start stop : BitVec 32) (lease : Int)
    (loadKey : Mac → Option Mac) (order : List (Mac × Rec) → List (Mac × Rec))
    (hkey : ∀ m, loadKey m = some m) (hperm : ∀ l, (order l).Perm l)
    (s0 : RState) (hs0 : RState.setup start stop lease [] loadKey order = .ok s0)
    (ops : List ROp) (cs : List (Option Nat)) (evs : List REv) (z : RState)
    (hrun : RState.run loadKey order s0 ops cs = some (evs, z)) :
    C03.holds ⟨start, stop, lease⟩ evs = true := by
  unfold C03.holds
  exact all_of_all_imp (RState.run_verdicts start stop lease loadKey order hkey hperm s0 hs0 ops cs evs z hrun)
    (fun _ hv => (Bool.and_eq_true_iff.1 hv).2)

/-- Every reachable state is a crash point from which the restart succeeds and restores exactly
the same client → address map and allocator bitmap, whatever order the records are re-marked in. -/
theorem C03_restore (start stop : BitVec 32) (lease : Int)
    (loadKey : Mac → Option Mac) (order : List (Mac × Rec) → List (Mac × Rec))
    (hkey : ∀ m, loadKey m = some m) (hperm : ∀ l, (order l).Perm l)
    (s0 : RState) (hs0 : RState.setup start stop lease [] loadKey order = .ok s0)
    (ops : List ROp) (cs : List (Option Nat)) (evs : List REv) (z : RState)
    (hrun : RState.run loadKey order s0 ops cs = some (evs, z)) :
    ∃ z', z.restart loadKey order = .ok z' ∧
      (∀ m, lookupRec z'.recs m = lookupRec z.recs m) ∧
      z'.alloc.bm.length = z.alloc.bm.length ∧ (∀ i, z'.alloc.bm.test i = z.alloc.bm.test i) := by
  obtain ⟨_, bound', hI⟩ := RInv.run loadKey order hkey hperm ops s0 [] cs evs z
    (RInv.init hperm hs0) hrun
  obtain ⟨z', h1, _, h2, h3, h4⟩ := hI.restart loadKey order hkey hperm
  exact ⟨z', h1, h2, h3, h4⟩

/-- `net.ParseMAC` as the loader of the stored key (the code before the D7 repair):
accepts 6, 8 and 20 bytes only. -/
def parseMACKey (m : Mac) : Option Mac :=
  if m.length = 6 ∨ m.length = 8 ∨ m.length = 20 then some m else none

/-- D7 (repaired by a `fix:` commit): with `net.ParseMAC` as the loader of stored keys — the code
before the repair — the hypothesis `hkey` is false and one request from a 5-byte hardware address
makes the next start fail. The same history is in the conformance corpus. -/
theorem C03_D7_prefix_refuted :
    ∃ s0 s1 r, RState.setup 0x0a000001#32 0x0a000009#32 3600000000000 [] parseMACKey id = .ok s0 ∧
      s0.handle [1, 2, 3, 4, 5] 1000000000 (some 0) = some (s1, r) ∧
      s1.restart parseMACKey id = .error .loadFailed :=
  ⟨_, _, _, rfl, rfl, rfl⟩

/-- D19. `setupRange` keeps the lease time rounded to whole seconds (`keptLease`), and for a whole number of
seconds (below 2^32) the lease time the reply carries (option 51, `leaseOpt`) is exactly the duration the plugin
computes the stored expiry from: "the lease promised" of `C03_holds` (the configured duration) and what the
client is told are the same thing. -/
theorem C03_promise_is_kept_lease (configured : Int) (h0 : 0 ≤ configured) (h1 : configured < 4294967295 * nsPerSec) :
    (leaseOpt (keptLease configured) : Int) * nsPerSec = keptLease configured ∧
    leaseOpt (keptLease configured) = leaseOpt configured := by
  have hk0 : 0 ≤ unixRound configured := Int.ediv_nonneg (Int.add_nonneg h0 (by decide)) (by decide)
  have hk1 : unixRound configured < 4294967296 :=
    Int.ediv_lt_of_lt_mul (by decide) (Int.lt_trans (Int.add_lt_add_right h1 _) (by decide))
  constructor
  · rw [keptLease, leaseOpt_mul _ hk0 hk1]
  · rw [keptLease, leaseOpt, unixRound_mul]; rfl

/-- before the repair the two differed: 1.5 s is announced as 2 s (the failing input of D19) -/
example : leaseOpt 1500000000 = 2 ∧ (leaseOpt 1500000000 : Int) * nsPerSec ≠ 1500000000 ∧ keptLease 1500000000 = 2000000000 := by
  refine ⟨by decide, by decide, by decide⟩

end CoreDhcp
