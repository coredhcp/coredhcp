/-
C03 — the hypothesis `hkey : ∀ m, loadKey m = some m` of C02/C03, discharged for the concrete
path a hardware address takes through the lease table (Model/HwKey.lean):
`HardwareAddr.String()` → column of NUMERIC affinity → `parseHWAddr`.

What is trusted here is `sqliteAffinity`: a model of what sqlite does to the texts of the image of
`macString` (a lone pair of decimal digits loses one leading zero, every other text is kept). It is
compared with the real sqlite file by the harness.
-/
import CoreDhcp.Props.C03
import CoreDhcp.Proofs.HwKey
namespace CoreDhcp

/-- The key `saveIPAddress` wrote for a hardware address is read back by `loadRecords` as the same
address — for addresses of every length (no bound), every byte value. -/
theorem C03_key_roundtrip (m : List Nat) (hb : ∀ b ∈ m, b < 256) : loadKeyConcrete m = some m := by
  rw [loadKeyConcrete_eq_chars]; exact loadKeyChars_roundtrip m hb

/-- `parseHWAddr` inverts `HardwareAddr.String()` also without the column in between (what a
column of TEXT affinity would give). -/
theorem C03_parse_macString (m : List Nat) (hb : ∀ b ∈ m, b < 256) :
    parseHWAddr (macString m) = some m := by
  simp only [parseHWAddr, macString, String.toList_ofList]; exact parseChars_macChars m hb

/-- The Go map `Recordsv4` is keyed by `HardwareAddr.String()`, the model by the bytes: the two
keyings identify the same clients. -/
theorem C03_macString_injective (m m' : List Nat)
    (hb : ∀ b ∈ m, b < 256) (hb' : ∀ b ∈ m', b < 256) :
    macString m = macString m' → m = m' := fun h =>
  Option.some.inj ((C03_parse_macString m hb).symm.trans (h ▸ C03_parse_macString m' hb'))

/-- The concrete loader on a `Mac` of the model. `Mac = List Nat` only because the model does not
carry a byte type: a hardware address is a list of bytes (`net.HardwareAddr = []byte`; the driver
and the harness only ever produce values below 256), and `macString` reads a `Nat` as the byte
`b % 256`, as a Go `byte` conversion would. -/
def loadKeyBytes (m : Mac) : Option Mac := loadKeyConcrete (m.map (· % 256))

/-- `hkey` of `C02_holds` / `C03_holds` / `C03_restore`, discharged on every byte list. The
hypothesis there quantifies over all `m : List Nat`; lists with an element ≥ 256 are not hardware
addresses and no operation of the driver mentions one. -/
theorem C03_hkey_on_bytes (m : Mac) (hb : ∀ b ∈ m, b < 256) : loadKeyBytes m = some m := by
  have hm : m.map (· % 256) = m := by
    rw [List.map_congr_left (fun b h => Nat.mod_eq_of_lt (hb b h)), List.map_id']
  unfold loadKeyBytes
  rw [hm]
  exact C03_key_roundtrip m hb

/-- A total loader that IS the concrete path on every hardware address (byte list) and the identity
on the junk `List Nat`s that are not hardware addresses. -/
def loadKeyTotal (m : Mac) : Option Mac :=
  if m.all (· < 256) then loadKeyConcrete m else some m

theorem loadKeyTotal_on_bytes (m : Mac) (hb : ∀ b ∈ m, b < 256) :
    loadKeyTotal m = loadKeyConcrete m := by
  have : m.all (· < 256) = true := by
    rw [List.all_eq_true]; intro b hbm; exact decide_eq_true (hb b hbm)
  simp only [loadKeyTotal, this, if_true]

theorem C03_hkey_total (m : Mac) : loadKeyTotal m = some m := by
  unfold loadKeyTotal
  split
  · next h =>
    rw [List.all_eq_true] at h
    exact C03_key_roundtrip m (fun b hbm => of_decide_eq_true (h b hbm))
  · rfl

/-- `C03_holds` with the loader instantiated by the concrete path; no `hkey` left. -/
theorem C03_holds_concrete (start stop : BitVec 32) (lease : Int)
    (order : List (Mac × Rec) → List (Mac × Rec)) (hperm : ∀ l, (order l).Perm l)
    (s0 : RState) (hs0 : RState.setup start stop lease [] loadKeyTotal order = .ok s0)
    (ops : List ROp) (cs : List (Option Nat)) (evs : List REv) (z : RState)
    (hrun : RState.run loadKeyTotal order s0 ops cs = some (evs, z)) :
    C03.holds ⟨start, stop, lease⟩ evs = true :=
  C03_holds start stop lease loadKeyTotal order C03_hkey_total hperm s0 hs0 ops cs evs z hrun

/-- `C03_restore` with the loader instantiated by the concrete path; no `hkey` left. -/
theorem C03_restore_concrete (start stop : BitVec 32) (lease : Int)
    (order : List (Mac × Rec) → List (Mac × Rec)) (hperm : ∀ l, (order l).Perm l)
    (s0 : RState) (hs0 : RState.setup start stop lease [] loadKeyTotal order = .ok s0)
    (ops : List ROp) (cs : List (Option Nat)) (evs : List REv) (z : RState)
    (hrun : RState.run loadKeyTotal order s0 ops cs = some (evs, z)) :
    ∃ z', z.restart loadKeyTotal order = .ok z' ∧
      (∀ m, lookupRec z'.recs m = lookupRec z.recs m) ∧
      z'.alloc.bm.length = z.alloc.bm.length ∧ (∀ i, z'.alloc.bm.test i = z.alloc.bm.test i) :=
  C03_restore start stop lease loadKeyTotal order C03_hkey_total hperm s0 hs0 ops cs evs z hrun

-- "07" is stored as the integer 7 and read back as "7"
example : macString [7] = "07" := by decide +kernel
example : sqliteAffinity "07" = "7" := by decide +kernel
example : parseHWAddr "7" = some [7] := by decide +kernel
example : loadKeyConcrete [7] = some [7] := by decide +kernel
-- "00" ↦ "0"
example : sqliteAffinity (macString [0]) = "0" := by decide +kernel
example : loadKeyConcrete [0] = some [0] := by decide +kernel
-- "10" ↦ "10", "99" ↦ "99"
example : sqliteAffinity (macString [0x10]) = "10" := by decide +kernel
example : loadKeyConcrete [0x10] = some [0x10] := by decide +kernel
example : loadKeyConcrete [0x99] = some [0x99] := by decide +kernel
-- "1e" and "0e" are not numbers: kept
example : sqliteAffinity (macString [0x1e]) = "1e" := by decide +kernel
example : loadKeyConcrete [0x1e] = some [0x1e] := by decide +kernel
example : sqliteAffinity (macString [0x0e]) = "0e" := by decide +kernel
example : loadKeyConcrete [0x0e] = some [0x0e] := by decide +kernel
-- the 5-byte address of D7 (the long ones are evaluated on the characters: the `String` wrappers are dear to evaluate)
example : macString [1, 2, 3, 4, 5] = "01:02:03:04:05" := by decide +kernel
example : loadKeyConcrete [1, 2, 3, 4, 5] = some [1, 2, 3, 4, 5] :=
  (loadKeyConcrete_eq_chars _).trans (by decide +kernel)
-- the empty address
example : macString [] = "" := by decide +kernel
example : loadKeyConcrete [] = some [] := by decide +kernel
-- two pairs of decimal digits are not a number
example : sqliteAffinity (macString [7, 8]) = "07:08" := by decide +kernel
-- a 16-byte address (the whole chaddr field)
example : loadKeyConcrete [0, 1, 0x2a, 0xff, 0x10, 0x1e, 7, 0x99, 0xab, 0xcd, 0xef, 9, 0x0a, 0xa0, 0x80, 0x7f]
    = some [0, 1, 0x2a, 0xff, 0x10, 0x1e, 7, 0x99, 0xab, 0xcd, 0xef, 9, 0x0a, 0xa0, 0x80, 0x7f] :=
  (loadKeyConcrete_eq_chars _).trans (by decide +kernel)
example : parseHWAddr "001" = none := by decide +kernel
example : parseHWAddr "01:" = none := by decide +kernel
example : parseHWAddr ":" = none := by decide +kernel
example : parseHWAddr "0g" = none := by decide +kernel
example : parseHWAddr "+1" = none := by decide +kernel
example : parseHWAddr "AB:cD:7" = some [0xab, 0xcd, 7] := by decide +kernel

end CoreDhcp
