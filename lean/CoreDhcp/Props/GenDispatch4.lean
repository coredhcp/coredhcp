/-
GEN (decision logic of `HandleMsg4`) — the definitions regenerated from the Go source on every run
(Generated/Dispatch4.lean, written by `harness gen -unit dispatch4` from the go/ast of
server/handle.go) are equal to the hand-written model (Model/Dispatch.lean: `stub4`, `peer4`, `pin`,
`dispatch4`) that the property theorems are about.

The generated functions take ATOMS (what the Go conditions test) as arguments; every theorem
below instantiates the atoms with their meaning in the model:

  giaddrUnspec  = `req.giaddr == 0#32`          respMt      = `resp.mt`
  ciaddrUnspec  = `req.ciaddr == 0#32`          isBroadcast = `req.flags / 32768 % 2 == 1`
  peerIsBcast   = `peer == bcast4`              peerIsLinkLocal = `isLinkLocal4 peer`
  bound         = index of the bound interface  oobNonNil / oobIdx = `oob.isSome` / `oob.getD 0`

The translator and what an edit of the source does to this file: DESIGN.md §1.5b.

`Gen2.` marks this file's own definitions: what a generated value stands for in the model (2 after
harness/gen2.go, the translator of this unit; a trailing 4 or 6 is the protocol).
-/
import CoreDhcp.Generated.Dispatch4
import CoreDhcp.Proofs.Dispatch
namespace CoreDhcp

/-- the address a generated destination code stands for -/
def Gen2.addr4 (req : Req4) (resp : Resp4) : Generated.Dest4 → BitVec 32
  | .giaddr => req.giaddr
  | .bcast => bcast4
  | .ciaddr => req.ciaddr
  | .yiaddr => resp.yiaddr

def Gen2.dest4 (req : Req4) (resp : Resp4) : Generated.Dest4 × Nat × Bool :=
  Generated.dest4 (req.giaddr == 0#32) resp.mt (req.ciaddr == 0#32) (req.flags / 32768 % 2 == 1)

/-- `NewReplyFromRequest(req)` with message type `t` (library behaviour, mirrored by the model) -/
def Gen2.reply4 (req : Req4) (t : Nat) : Resp4 :=
  { op := 2, mt := t, xid := req.xid, htype := req.htype, chaddr := req.chaddr, flags := req.flags,
    giaddr := req.giaddr, yiaddr := 0#32, opt82 := req.opt82, opt61 := req.opt61, tags := [] }

/-- the destination cascade is `peer4` -/
theorem GEN_peer4_eq (req : Req4) (resp : Resp4) :
    peer4 req resp =
      (Gen2.addr4 req resp (Gen2.dest4 req resp).1, (Gen2.dest4 req resp).2.1, (Gen2.dest4 req resp).2.2) := by
  unfold peer4 Gen2.dest4 Generated.dest4
  -- the four tests as the Booleans the generated side is given: a truth table, as in `C15_expected_eq`
  simp only [← bne_iff_ne (a := req.giaddr), ← bne_iff_ne (a := req.ciaddr), ← beq_iff_eq (a := resp.mt),
    ← beq_iff_eq (a := req.flags / 32768 % 2), bne]
  generalize (req.giaddr == 0#32) = g
  generalize (resp.mt == 6) = n
  generalize (req.ciaddr == 0#32) = c
  generalize (req.flags / 32768 % 2 == 1) = f
  cases g
  · rfl
  · cases n
    · cases c
      · rfl
      · cases f <;> rfl
    · rfl

/-- the `switch` choosing the interface is `pin` -/
theorem GEN_pinIf4_eq (bound : Nat) (oob : Option Nat) :
    pin bound oob = Generated.pinIf4 bound oob.isSome (oob.getD 0) := pin_atoms bound oob

/-- `needPin` and `pin` as `dispatch4` combines them -/
theorem GEN_woob4_eq (bound : Nat) (oob : Option Nat) (a : BitVec 32) (l2 : Bool) :
    (if (a == bcast4 || isLinkLocal4 a || l2) then pin bound oob else none) =
      Generated.woob4 (a == bcast4) (isLinkLocal4 a) l2 bound oob.isSome (oob.getD 0) := by
  rw [GEN_pinIf4_eq]
  unfold Generated.woob4 Generated.pinIf4
  rfl

/-- opcode guard and `switch mt := req.MessageType()` are `stub4` -/
theorem GEN_stub4_eq (req : Req4) :
    stub4 req = if Generated.dropEarly4 req.op then none else (Generated.stubType4 req.mt).map (Gen2.reply4 req) := by
  unfold stub4 Generated.dropEarly4 Generated.stubType4 Gen2.reply4
  -- the three tests as Booleans, as in `GEN_peer4_eq`
  simp only [← bne_iff_ne (a := req.op), ← beq_iff_eq (a := req.mt)]
  generalize (req.op != 1) = o
  generalize (req.mt == 1) = a
  generalize (req.mt == 3) = b
  cases o
  · cases a
    · cases b <;> rfl
    · rfl
  · rfl

/-- … on the message type alone -/
theorem GEN_stubType4_eq (req : Req4) (h : req.op = 1) :
    (stub4 req).map (·.mt) = Generated.stubType4 req.mt := by
  rw [GEN_stub4_eq, Generated.dropEarly4, h]
  cases Generated.stubType4 req.mt <;> rfl

/-- `HandleMsg4` end to end: the model's `dispatch4` is the composition of the generated decisions
(around the handler chain and the library's reply constructor). -/
theorem GEN_dispatch4_eq (bound : Nat) (oob : Option Nat) (hs : List Handler4) (input : Option Req4) :
    dispatch4 bound oob hs input =
      match input with
      | none => .drop
      | some req =>
        if Generated.dropEarly4 req.op then .drop
        else match Generated.stubType4 req.mt with
          | none => .drop
          | some t =>
            match (runChain hs req 0 (some (Gen2.reply4 req t))).1 with
            | none => .drop
            | some resp =>
              let d := Gen2.dest4 req resp
              let a := Gen2.addr4 req resp d.1
              let woob := Generated.woob4 (a == bcast4) (isLinkLocal4 a) d.2.2 bound oob.isSome (oob.getD 0)
              if d.2.2 && woob.isNone then .panicNoIf else .send resp a d.2.1 woob d.2.2 := by
  cases input with
  | none => rfl
  | some req =>
    unfold dispatch4
    -- the texts differ where the reply is made (`stub4` against the two generated tests) and in what is done with the
    -- response the chain returns (`peer4`, `pin` against their generated forms); the walk of the chain between is the same
    simp only [GEN_stub4_eq, GEN_peer4_eq, GEN_woob4_eq]
    cases Generated.dropEarly4 req.op with
    | true => rfl
    | false => cases Generated.stubType4 req.mt <;> rfl

end CoreDhcp
