/-
C07 — A hint naming a free block is honoured exactly.
The monitor this theorem is about is the `c07` component of `Mon6.step` / `Mon4.step` (Spec/Alloc.lean).
-/
import CoreDhcp.Proofs.Alloc6
import CoreDhcp.Proofs.Alloc4
namespace CoreDhcp

theorem C07_alloc6 (p : Pool6) (hp : p.WF) (a : A6) (hnew : A6.new p = .ok a)
    (ops : List Op6) (cs : List (Option Nat)) (evs : List Ev6) (z : A6)
    (hdom : ops.all (Op6.inDomain p) = true) (hrun : A6.run a ops cs = some (evs, z)) :
    C07.holds6 p evs = true :=
  (Verdict.all_proj (A6.run_verdicts p hp a hnew ops cs evs z hdom hrun)).2.2.2

theorem C07_alloc4 (s e : BitVec 32) (a : A4) (hnew : A4.new (some s) (some e) = .ok a)
    (ops : List Op4) (cs : List (Option Nat)) (evs : List Ev4) (z : A4)
    (hrun : A4.run a ops cs = some (evs, z)) :
    C07.holds4 s e evs = true :=
  (Verdict.all_proj (A4.run_verdicts s e a hnew ops cs evs z hrun)).2.2.2

end CoreDhcp
