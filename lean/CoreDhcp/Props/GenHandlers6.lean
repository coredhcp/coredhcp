/-
GEN (DHCPv6 handlers of the option plugins; unit `handlers6` of DESIGN.md §1.5b) — Generated/Handlers6.lean, regenerated
on every run from the go/ast of the `Handler6`-typed functions of dns, searchdomains, nbp, sleep, serverid, is equal to the
hand-written model `Plug.<plugin>.handle…` that C17 and C14 are about.

Every handler is generated twice: `GenH6.<plugin>On … (pkt : GenH6.Pkt) pre` is the translation, over the first parameter of
the Go function (the datagram as parsed, of which a handler may only ask `GetInnerMessage()`: `pkt.inner`, `none` = error);
`GenH6.<plugin> … (req : ReqView6) pre` is that function at `GenH6.served req = ⟨some req⟩`, what the server hands over
(HandleMsg6 has already decapsulated, and drops the datagram if that fails: the model has no request without an inner message).
The theorems are `GenH6.<plugin> cfg req pre = Plug.<plugin>.handle… cfg req pre`; what the model does not have is stated of the
generated side alone (`_undecap`: `return nil, true`; `_blind`: the request is not looked at).

Two statements have another shape. nbp: the Go handler starts with `if opt59 == nil { return resp, true }`; the model's
configuration always has an option 59 (`setup6` stores one before it returns the handler), so the equality is stated at
`some cfg.o59`; `GEN_h6_nbp_unset` says what the code does for nil, an input outside the model. serverid: the translator
assumes the guard `if v6ServerID == nil { log.Fatal(…) }` away (recorded in the generated file).

The vocabulary (`pkt.inner`, `oro6`, `lookup`, `update` / `add`, the encoders) is fixed in gen12.go; control flow, which
condition guards which effect, option codes and message types, UPDATE versus ADD, the loop over the requested options and the
returned pair are derived from the source, and are what the theorems compare.
-/
import CoreDhcp.Generated.Handlers6
import CoreDhcp.Props.GenServerID6
namespace CoreDhcp
open Plug

theorem GEN_h6_dns_eq (cfg : List Bytes) (req : ReqView6) (pre : Resp6) :
    GenH6.dns cfg req pre = Plug.dns6.handle cfg req pre := rfl

theorem GEN_h6_dns_undecap (cfg : List Bytes) (pre : Resp6) :
    GenH6.dnsOn cfg ⟨none⟩ pre = (none, true) := rfl

theorem GEN_h6_searchdomains_eq (cfg : List Bytes) (req : ReqView6) (pre : Resp6) :
    GenH6.searchdomains cfg req pre = Plug.search.handle6 cfg req pre := rfl

theorem GEN_h6_searchdomains_blind (cfg : List Bytes) (pkt : GenH6.Pkt) (pre : Resp6) :
    GenH6.searchdomainsOn cfg pkt pre = (some (pre.update 24 (encLabels cfg)), false) := rfl

theorem GEN_h6_sleep_eq (cfg : Int) (req : ReqView6) (pre : Resp6) :
    GenH6.sleep cfg req pre = Plug.sleep.handle6 cfg req pre := rfl

theorem GEN_h6_sleep_blind (cfg : Int) (pkt : GenH6.Pkt) (pre : Resp6) :
    GenH6.sleepOn cfg pkt pre = (some pre, false) := rfl

theorem GEN_h6_nbp_loop (cfg : nbp6.Cfg) (l : List Nat) (r : Resp6) :
    l.foldl (fun (a : Resp6) c =>
        if c = 59 then a.add 59 (GenH6.deref (some cfg.o59))
        else if c = 60 then (if cfg.o60.isSome then a.add 60 (encBootParams [GenH6.deref cfg.o60]) else a)
        else a) r
      = { r with opts := r.opts ++ nbp6.added cfg l } := by
  induction l generalizing r with
  | nil => simp only [List.foldl_nil, nbp6.added, List.append_nil]
  | cons c rest ih =>
    rw [List.foldl_cons, ih]
    by_cases h59 : c = 59
    · simp only [h59, if_true, nbp6.added, Resp6.add, GenH6.deref, Option.getD_some, List.append_assoc,
        List.singleton_append]
    · by_cases h60 : c = 60
      · cases ho : cfg.o60 with
        | none =>
          simp only [h60, nbp6.added, ho, Option.isSome_none, Bool.false_eq_true, if_false,
            show ¬((60 : Nat) = 59) by decide, if_true]
        | some p =>
          simp only [h60, nbp6.added, ho, Option.isSome_some, if_true, Resp6.add, GenH6.deref, Option.getD_some,
            show ¬((60 : Nat) = 59) by decide, if_false, List.append_assoc, List.singleton_append]
      · simp only [h59, h60, if_false, nbp6.added]

theorem GEN_h6_nbp_eq (cfg : nbp6.Cfg) (req : ReqView6) (pre : Resp6) :
    GenH6.nbp (some cfg.o59) cfg.o60 req pre = Plug.nbp6.handle cfg req pre := by
  unfold GenH6.nbp GenH6.nbpOn GenH6.served Plug.nbp6.handle
  simp only [Option.isSome_some, not_true_eq_false, if_false]
  rw [GEN_h6_nbp_loop]

/-- not in the model: with a nil `opt59` (the handler used before `setup6` ran) the code ends the chain
with the response untouched, whatever the request -/
theorem GEN_h6_nbp_unset (o60 : Option Bytes) (pkt : GenH6.Pkt) (pre : Resp6) :
    GenH6.nbpOn none o60 pkt pre = (some pre, true) := rfl

/-- why `GEN_h6_nbp_eq` is stated at `some cfg.o59` and not for every first argument: at `none` (no model
configuration corresponds to it) the two sides differ for EVERY `cfg`, e.g. on a request whose ORO asks for
option 59 — the model appends the boot file URL, the unconfigured code appends nothing -/
theorem GEN_h6_nbp_unset_differs (cfg : nbp6.Cfg) :
    GenH6.nbp none cfg.o60 ⟨0, 1, [(6, [0, 59])]⟩ ⟨7, []⟩ ≠ Plug.nbp6.handle cfg ⟨0, 1, [(6, [0, 59])]⟩ ⟨7, []⟩ := by
  intro h
  have h2 : (some (⟨7, []⟩ : Resp6), true) = (some ⟨7, [(59, cfg.o59)]⟩, true) := h
  cases h2

theorem GEN_h6_nbp_undecap (o59 : Bytes) (o60 : Option Bytes) (pre : Resp6) :
    GenH6.nbpOn (some o59) o60 ⟨none⟩ pre = (none, true) := rfl

/-- `sid := msg.Options.ServerID(); sid != nil` on the `Option` that the first Server Identifier option is in
the model is the model's `match`; `!sid.Equal(v6ServerID)` is `sid ≠ cfg`; the stamp
`dhcpv6.WithServerID(v6ServerID)(resp)` is `UpdateOption` of option 2 (read from dhcpv6/modifiers.go). -/
theorem GEN_h6_serverid_eq (cfg : Bytes) (req : ReqView6) (pre : Resp6) :
    GenH6.serverid cfg req pre = Plug.serverid6.handle cfg req pre := by
  unfold GenH6.serverid GenH6.serveridOn GenH6.served Plug.serverid6.handle
  -- the code groups its message types `(a ∨ b) ∨ c`; everything else is the same text once option 2 is looked up
  simp only [or_assoc]
  cases Plug.lookup 2 req.opts with
  | none => rfl
  | some s => rfl

theorem GEN_h6_serverid_undecap (cfg : Bytes) (pre : Resp6) :
    GenH6.serveridOn cfg ⟨none⟩ pre = (none, true) := rfl

/-- the whole-handler translation agrees with the decision-only translation of unit serverid6: it discards
exactly when `Generated.sidDecision` says so, and otherwise stamps the response and lets the chain go on -/
theorem GEN_h6_serverid_decision (cfg : Bytes) (req : ReqView6) (pre : Resp6) :
    GenH6.serverid cfg req pre =
      if Generated.sidDecision req.mt (Plug.lookup 2 req.opts).isSome (Plug.lookup 2 req.opts == some cfg)
      then (none, true) else (some (pre.update 2 cfg), false) :=
  (GEN_h6_serverid_eq cfg req pre).trans (GEN_sidDecision_model cfg req pre)

end CoreDhcp
