/-
C11 — DHCPv4 replies match their request; non-requests are never answered.
-/
import CoreDhcp.Proofs.Chain
import CoreDhcp.Proofs.Dispatch
namespace CoreDhcp

/-- Whatever the parse result (or parse failure), the listener configuration and the chain of
handlers that preserve the echoed fields: anything `HandleMsg4` sends is a BOOTREPLY answering
a BOOTREQUEST of type DISCOVER/REQUEST, echoing xid, htype, chaddr, flags, giaddr, options 82 and
61, and is an OFFER for a DISCOVER, an ACK or NAK for a REQUEST. -/
theorem C11_holds (bound : Nat) (oob : Option Nat) (hs : List Handler4) (input : Option Req4)
    (hpres : ∀ h ∈ hs, Handler4.Preserving h ∧ Handler4.NilPreserving h) :
    C11.holds input (dispatch4 bound oob hs input) = true := by
  refine dispatch4_elim (motive := fun out => C11.holds input out = true) bound oob hs input rfl ?_
  intro req r0 resp hi h0 hc
  rcases deliver4_cases bound oob req resp with hd | ⟨_, _, _, _, hd⟩
  · rw [hd]; rfl
  · rw [hd, hi]
    obtain ⟨_, _, hr0⟩ := stub4_some req r0 h0
    refine C11_send req r0 resp _ _ _ _ h0 ?_
    exact runChain_some_invariant (fun x => echo4 req x = true ∧ typeOk4 req x = true) req hs
      (fun h hm r r' hr ⟨e, t⟩ =>
        have ⟨he, ht⟩ := (hpres h hm).1 req r r' (h req (some r)).2 (Prod.ext hr rfl)
        ⟨he e, ht t⟩)
      (fun h hm => (hpres h hm).2 req _ _ rfl) 0 r0 resp hr0 hc

/-- BOOTREPLY opcodes, every other or missing message type, and unparseable datagrams are never
answered — for arbitrary handlers. -/
theorem C11_never_answers_non_requests (bound : Nat) (oob : Option Nat) (hs : List Handler4) (input : Option Req4)
    (resp : Resp4) (peer : BitVec 32) (port : Nat) (ifidx : Option Nat) (l2 : Bool)
    (h : dispatch4 bound oob hs input = .send resp peer port ifidx l2) :
    ∃ req, input = some req ∧ req.op = 1 ∧ (req.mt = 1 ∨ req.mt = 3) := by
  obtain ⟨req, r0, hi, h0, _⟩ := dispatch4_send bound oob hs input resp peer port ifidx l2 h
  obtain ⟨h1, h2, _⟩ := stub4_some req r0 h0
  exact ⟨req, hi, h1, h2⟩

/-- non-vacuity: a DISCOVER through a one-handler chain is answered -/
example : ∃ r, dispatch4 3 none [fun _ r => (r, false)]
    (some ⟨1, 1, 7, 1, [1,2,3,4,5,6], 0, 0#32, 0#32, none, none⟩) = .send r 0#32 68 (some 3) true := ⟨_, rfl⟩

end CoreDhcp
