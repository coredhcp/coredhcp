/-
GEN — the definitions regenerated from the Go source (Generated/IPCalc.lean, written by
`harness gen` from the go/ast of plugins/allocators/ipcalc.go on every run) are equal to the
hand-written model (Model/IPCalc.lean) that every IPCalc/allocator theorem is about.

An edit of `Offset` / `AddPrefixes` that changes their behaviour changes the generated
definition, makes the corresponding statement below false, and so breaks this file.

Both sides are unfolded and split where the two texts differ; the leaves are the same term.  The one thing
to prove is about the shift counts: the generated code keeps Go's wrapping
unsigned arithmetic (`(64#64 - BitVec.ofInt 64 p).toNat`), the model uses `Nat` subtraction
(`64 - p.toNat`); they agree under the guards that dominate each use (`Gen.cnt`).
-/
import CoreDhcp.Generated.IPCalc
import CoreDhcp.Model.IPCalc
namespace CoreDhcp

theorem Gen.cnt (a b : Nat) (hab : b ≤ a) (ha : a < 2^64) :
    (BitVec.ofNat 64 a - BitVec.ofNat 64 b).toNat = a - b := by
  rw [BitVec.ofNat_sub_ofNat_of_le a b (Nat.lt_of_le_of_lt hab ha) hab, BitVec.toNat_ofNat,
    Nat.mod_eq_of_lt (Nat.lt_of_le_of_lt (Nat.sub_le a b) ha)]

theorem GEN_offset_eq : ∀ a b p, Generated.offset a b p = offset a b p := by
  intro a b p
  unfold Generated.offset offset Generated.bytesCompare
  by_cases hr : p > 128 ∨ p < 0
  · rw [if_pos hr, if_pos hr]
  · -- in range `p` is a `Nat`, and `uint(p)` is `BitVec.ofNat`
    obtain ⟨n, rfl⟩ := Int.eq_ofNat_of_zero_le (Int.not_lt.mp fun h => hr (Or.inr h))
    have hn : n ≤ 128 := Int.ofNat_le.mp (Int.not_lt.mp fun h => hr (Or.inl h))
    rw [if_neg hr, if_neg hr, BitVec.ofInt_natCast, Int.toNat_natCast]
    by_cases hab : a = b
    · rw [if_pos hab, if_pos hab]; rfl
    · -- the texts differ in the tests on `reverse` (-1 or 1 here) against `a.val < b.val`, in `↑n ≤ 64` on `Int`
      -- against `n ≤ 64`, and in the shift counts
      rw [if_neg hab, if_neg hab]
      by_cases h64 : n ≤ 64
      · have h64' : (n : Int) ≤ 64 := Int.ofNat_le.mpr h64
        rw [Gen.cnt 64 n h64 (by decide)]
        by_cases hlt : a.val < b.val
        · rw [if_pos hlt, if_pos hlt, if_neg (by decide), if_pos (by decide), if_pos h64', if_pos h64]
        · rw [if_neg hlt, if_neg hlt, if_neg (by decide), if_neg (by decide), if_pos h64', if_pos h64]
      · have h64' : ¬ (n : Int) ≤ 64 := fun h => h64 (Int.ofNat_le.mp h)
        rw [Gen.cnt 128 n hn (by decide), Gen.cnt n 64 (Nat.le_of_not_le h64) (Nat.lt_of_le_of_lt hn (by decide))]
        by_cases hlt : a.val < b.val
        · rw [if_pos hlt, if_pos hlt, if_neg (by decide), if_pos (by decide), if_neg h64', if_neg h64]
        · rw [if_neg hlt, if_neg hlt, if_neg (by decide), if_neg (by decide), if_neg h64', if_neg h64]

theorem GEN_addPrefixes_eq : ∀ ip n unit, Generated.addPrefixes ip n unit = addPrefixes ip n unit := by
  intro ip n unit
  unfold Generated.addPrefixes addPrefixes Generated.ipLen
  -- the two leading guards are the same words on both sides. Behind them the generated text tests `unit ≤ 64` first and
  -- the range check inside it, the model the other way round; the shift count is `(64#64 - unit).toNat` against `64 - unit.toNat`
  congr 1
  congr 1
  rw [if_neg (by decide : ¬ ((16 : Int) ≠ 16))]
  by_cases h3 : unit.toNat ≤ 64
  · rw [if_pos h3, BitVec.toNat_sub_of_le (BitVec.le_def.mpr h3)]
    by_cases h4 : unit.toNat < 64 ∧ n >>> unit.toNat ≠ 0#64
    · rw [if_pos h4, if_pos h4]
    · rw [if_neg h4, if_neg h4, if_pos h3]; rfl
  · have h4 : ¬ (unit.toNat < 64 ∧ n >>> unit.toNat ≠ 0#64) := fun h => h3 (Nat.le_of_lt h.1)
    rw [if_neg h3, if_neg h4, if_neg h3]

end CoreDhcp
