/-
Facts about the built-in option plugins and server_id that the chain properties C11, C12 and C13
rely on. All follow from the frame of a handler, `plugHandle4_frame` / `plugHandle6_frame`
(Proofs/OptPlug.lean).
-/
import CoreDhcp.Proofs.OptPlug
namespace CoreDhcp
open Plug

/-- a built-in DHCPv4 plugin that returns a nil response also ends the chain -/
theorem C13_nil_stop_builtin (cfg : Cfg4) (req : ReqView4) (pre : Resp4) (stop : Bool)
    (h : plugHandle4 cfg req pre = (none, stop)) : stop = true := (plugHandle4_frame cfg req pre).of_none h

theorem C13_nil_stop_builtin6 (cfg : Cfg6) (req : ReqView6) (pre : Resp6) (stop : Bool)
    (h : plugHandle6 cfg req pre = (none, stop)) : stop = true := (plugHandle6_frame cfg req pre).of_none h

/-- no built-in DHCPv4 plugin changes the message type of the response -/
theorem C11_builtin_preserve_mt (cfg : Cfg4) (req : ReqView4) (pre r : Resp4) (stop : Bool)
    (h : plugHandle4 cfg req pre = (some r, stop)) : r.mt = pre.mt := (plugHandle4_within cfg req pre r stop h).mt

theorem C12_builtin_preserve_mt (cfg : Cfg6) (req : ReqView6) (pre r : Resp6) (stop : Bool)
    (h : plugHandle6 cfg req pre = (some r, stop)) : r.mt = pre.mt := (plugHandle6_within cfg req pre r stop h).mt

/-- Every built-in DHCPv4 plugin leaves the relay agent information (82), client identifier (61)
and message type (53) options of the response alone: each only updates the codes it owns. -/
theorem C11_builtin_preserve_echo_opts (cfg : Cfg4) (req : ReqView4) (pre r : Resp4) (stop : Bool)
    (h : plugHandle4 cfg req pre = (some r, stop)) :
    lookup 82 r.opts = lookup 82 pre.opts ∧ lookup 61 r.opts = lookup 61 pre.opts ∧
    lookup 53 r.opts = lookup 53 pre.opts := by
  have hw := plugHandle4_within cfg req pre r stop h
  -- plugin by plugin, none of the codes it writes is one of the three
  have hn : 82 ∉ writes4 cfg ∧ 61 ∉ writes4 cfg ∧ 53 ∉ writes4 cfg := by
    cases cfg <;> simp only [writes4] <;> decide
  exact ⟨hw.opts hn.1, hw.opts hn.2.1, hw.opts hn.2.2⟩

/-- Every built-in DHCPv6 plugin leaves the Client-ID (1) and Rapid Commit (14) options of the
response untouched. -/
theorem C12_builtin_preserve_cid (cfg : Cfg6) (req : ReqView6) (pre r : Resp6) (stop : Bool)
    (h : plugHandle6 cfg req pre = (some r, stop)) :
    r.opts.filter (fun o => o.1 == 1) = pre.opts.filter (fun o => o.1 == 1) ∧
    r.opts.filter (fun o => o.1 == 14) = pre.opts.filter (fun o => o.1 == 14) := by
  have hw := plugHandle6_within cfg req pre r stop h
  have hn : 1 ∉ writes6 cfg ∧ 14 ∉ writes6 cfg := by
    cases cfg <;> simp only [writes6] <;> decide
  exact ⟨hw.opts hn.1, hw.opts hn.2⟩

end CoreDhcp
