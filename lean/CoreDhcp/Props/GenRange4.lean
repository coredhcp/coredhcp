/-
GEN, unit `range4` (DESIGN.md §1.5b): `(*PluginState).Handler4` and the re-marking loop at the end of `setupRange`
(plugins/range/plugin.go), regenerated from the go/ast into Generated/Range4.lean, against the model the lease
theorems are about (Model/Range.lean).  The generated side keeps the code's steps (look-up and `ok` test, allocate /
record / save / map store in that order, `Unix()` for a first lease and `Round(time.Second).Unix()` for a renewal,
option 51 from `LeaseTime.Round(time.Second)`); the statements say it equals `RState.handle` at the first-fit choice
and `remark` on the order the loop visits the records, a panic of the allocator and either error return being the
model's `none`.  A failing `saveIPAddress` is only logged by the code: the translator checks that shape and the model
takes the save to succeed.
-/
import CoreDhcp.Generated.Range4
import CoreDhcp.Proofs.Range
namespace CoreDhcp
open GenRange (allocFF goAlloc roundSec secs32 LoopOut)

/-- first fit is always an admissible choice: the `getD` default of `allocFF` is never taken -/
theorem GenRange.allocFF_eq (a : A4) (hint : Option (BitVec 32)) :
    a.allocate hint a.firstFit = some (allocFF a hint) :=
  eq_some_getD_of_isSome (A4.firstFit_admissible a hint) _

/-- `t.Round(time.Second).Unix()` is the model's `unixRound` -/
theorem GenRange.unixFloor_roundSec (t : Int) : unixFloor (roundSec t) = unixRound t :=
  unixFloor_mul _

/-- `uint32(d.Round(time.Second) / time.Second)` is the model's `leaseOpt` -/
theorem GenRange.secs32_roundSec (d : Int) : secs32 (roundSec d) = leaseOpt d := by
  unfold GenRange.secs32 leaseOpt
  rw [← unixFloor, GenRange.unixFloor_roundSec]

/-- the generated `Handler4` is the model's `handle` driven by first fit. -/
theorem GEN_range_handler4_eq (s : RState) (mac : Mac) (now : Int) :
    s.handle mac now s.alloc.firstFit = some (GenRange.handler4 s mac now) := by
  unfold RState.handle GenRange.handler4
  -- the texts differ in how they look at the record (`match` against `isSome`) and at what `Allocate` returned (`match`
  -- on the result against `goAlloc` and `err`), in `leaseOpt`, `unixRound` against the rounded times, and in where `some` stands
  rw [← GenRange.secs32_roundSec, ← GenRange.unixFloor_roundSec]
  cases lookupRec s.recs mac with
  | none =>
    rw [GenRange.allocFF_eq]
    generalize allocFF s.alloc none = p
    obtain ⟨a', res⟩ := p
    cases res <;> rfl
  | some r =>
    dsimp only
    by_cases hc : r.expires * nsPerSec < now + s.lease
    · rw [if_pos hc, if_pos hc]; rfl
    · rw [if_neg hc, if_neg hc]; rfl

theorem GEN_range_handler4_eq' (s : RState) (mac : Mac) (now : Int) :
    GenRange.handler4 s mac now = (s.handle mac now s.alloc.firstFit).getD (s, .panic) := by
  rw [GEN_range_handler4_eq]; rfl

/-- one pass through the body: the model's step -/
theorem GEN_range_remarkBody_eq (a : A4) (v : Rec) :
    GenRange.remarkBody a v =
      match a.allocate (some v.ip) a.firstFit with
      | some (a', .ok ip) => if ip = v.ip then (a', .next) else (a', .fail)
      | some (a', .noaddr) => (a', .fail)
      | some (a', .panic) => (a', .panic)
      | none => (a, .panic) := by
  unfold GenRange.remarkBody
  rw [GenRange.allocFF_eq]
  generalize allocFF a (some v.ip) = p
  obtain ⟨a', res⟩ := p
  cases res with
  | ok ip => exact ite_not _ _ _
  | noaddr => rfl
  | panic => rfl

/-- what the loop leaves: the allocator when it ran to its end, nothing when setupRange failed (`Gen8`: after the
translator source gen8.go) -/
def Gen8.ofLoop : A4 × LoopOut → Option A4
  | (a, .next) => some a
  | _ => none

/-- the generated loop, on the order it visits the records, is the model's `remark`. -/
theorem GEN_range_remark_eq (a : A4) (l : List (Mac × Rec)) :
    remark a l = Gen8.ofLoop (GenRange.remarkLoop a l) := by
  induction l generalizing a with
  | nil => rfl
  | cons p rest ih =>
    obtain ⟨m, v⟩ := p
    unfold remark GenRange.remarkLoop
    rw [GEN_range_remarkBody_eq]
    cases a.allocate (some v.ip) a.firstFit with
    | none => rfl
    | some q =>
      obtain ⟨a', res⟩ := q
      cases res with
      | ok ip =>
        -- the model tests `ip == v.ip`, the body (in the form above) `ip = v.ip`; on `BitVec` the first is `decide` of the second
        dsimp only
        cases hb : ip == v.ip with
        | true => rw [if_pos (of_decide_eq_true hb)]; exact ih a'
        | false => rw [if_neg (of_decide_eq_false hb)]; rfl
      | noaddr => rfl
      | panic => rfl

/-- `RState.setup` with the generated loop in place of `remark` -/
theorem GEN_range_setup_remark (start stop : BitVec 32) (lease : Int) (db : List Row)
    (loadKey : Mac → Option Mac) (order : List (Mac × Rec) → List (Mac × Rec)) :
    RState.setup start stop lease db loadKey order =
      if start.toNat ≥ stop.toNat then .error .badRange
      else match A4.new (some start) (some stop) with
        | .error _ => .error .badRange
        | .ok a =>
          match loadRecords loadKey db with
          | none => .error .loadFailed
          | some recs =>
            match Gen8.ofLoop (GenRange.remarkLoop a (order recs)) with
            | none => .error .realloc
            | some a' => .ok ⟨a', recs, db, lease⟩ := by
  unfold RState.setup
  simp only [GEN_range_remark_eq]
  rfl

end CoreDhcp
