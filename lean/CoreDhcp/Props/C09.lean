/-
C09 — A client keeps its delegated prefix: renewals and repeats return it.
-/
import CoreDhcp.Proofs.Prefix
namespace CoreDhcp

/-- For every pool, history, allocator policy and clock as in `C08_holds`: once a reply told a client it holds P: an IA_PD asking for exactly P is
answered with P again, with a lifetime not shorter than what remained; an IA_PD without any hint
(no IAPrefix option, or only the unspecified prefix) from a client that holds prefixes is answered
with exactly the prefixes it holds — so every delegated prefix is remembered however many a reply
delegated, and retransmissions consume no further block. -/
theorem C09_holds (pool : Pool6) (hp : pool.WF) (a : A6) (hnew : A6.new pool = .ok a)
    (ops : List POp) (hwf : ops.all (fun op => op.iapds.all IAPDReq.wf) = true)
    (hmono : POp.monotone ops = true)
    (cs : List (Option Nat)) (evs : List PEv) (z : PState)
    (hrun : PState.run ⟨a, []⟩ ops cs = some (evs, z)) :
    C09.holds pool evs = true := by
  unfold C09.holds
  exact all_of_all_imp (PState.run_verdicts pool hp a hnew ops hwf hmono cs evs z hrun)
    (fun _ hv => (Bool.and_eq_true_iff.1 hv).2)

/-- a message from one client never touches what another client holds -/
theorem C09_frame (s s' : PState) (c c' : ClientKey) (iapds : List IAPDReq) (now : Int)
    (cs cs' : List (Option Nat)) (resp : Option (List IAPDResp)) (hne : c' ≠ c)
    (h : s.handleMsg (some c) iapds now cs = some (s', resp, cs')) :
    s'.leasesOf c' = s.leasesOf c' := by
  obtain ⟨rs, -, hrs⟩ := PrefixProof.handleMsg_eq_some h
  clear h
  induction hrs with
  | nil => rfl
  | cons h1 _ ih => rw [ih, PrefixProof.handleIAPD_frame h1 hne]

end CoreDhcp
