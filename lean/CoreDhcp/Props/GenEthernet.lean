/-
GEN (link-level unicast, C15's last destination clause) — the definitions regenerated from the Go source on
every run (Generated/Ethernet.lean, written by `harness gen -unit ethernet` from the go/ast of
server/sendEthernet.go) against the hand-written model Model/Ethernet.lean: the generated `sendEthernet` is
the model's, the link-level clause of C15 holds of the model and so of the generated definition, and
`Eth.dhcpLayerBytes` (what `Args.wire` stands for) agrees with the real gopacket on the replies the
translator ran it on. The translator: DESIGN.md §1.5b.
-/
import CoreDhcp.Generated.Ethernet
namespace CoreDhcp

/-- Everything the source writes into the layers, the options, the socket and its address, field by field (a
field the source does not set is the zero value): the header fields `Eth.Frame` has no name for are fixed here. -/
theorem GEN_eth_layers (a : Eth.Args) :
    GenEth.eth a = { srcMAC := a.ifMac, dstMAC := a.chaddr, ethernetType := 0x0800, length := 0 } ∧
    GenEth.ip a = { version := 4, ihl := 0, tos := 0, length := 0, id := 0, flags := 2, fragOffset := 0, ttl := 64,
                    protocol := 17, checksum := 0, srcIP := a.siaddr, dstIP := a.yiaddr } ∧
    GenEth.udp a = { srcPort := 67, dstPort := 68, length := 0, checksum := 0 } ∧
    GenEth.options = { fixLengths := true, computeChecksums := true } ∧
    GenEth.layerOrder = ["Ethernet", "IPv4", "UDP", "DHCPv4"] ∧ GenEth.checksumLayer = "IPv4" ∧
    GenEth.payload a = a.wire ∧
    GenEth.socketArgs = ("AF_PACKET", "SOCK_RAW", 0) ∧
    GenEth.sockaddr a = { protocol := 0, ifindex := a.ifIndex, hatype := 0, pkttype := 0, halen := 6,
                          addr := a.chaddr.take 6 ++ [0, 0] } ∧
    GenEth.ipv4DontFragment = 2 :=
  ⟨rfl, rfl, rfl, rfl, rfl, rfl, rfl, rfl, rfl, rfl⟩

theorem GEN_eth_sendEthernet_eq : ∀ a, GenEth.sendEthernet a = Eth.sendEthernet a := by
  intro a
  unfold GenEth.sendEthernet Eth.sendEthernet
  -- the source tests the lengths of two fields of the layer literal `eth a`, the model those of `a.chaddr`, `a.ifMac`:
  -- only these two projections are rewritten, `eth a` stays folded for `GenEth.frame`
  have he : (GenEth.eth a).dstMAC = a.chaddr ∧ (GenEth.eth a).srcMAC = a.ifMac := ⟨rfl, rfl⟩
  rw [he.1, he.2]
  -- the source tests the two lengths one after the other, the model their disjunction; the frame built from
  -- the layer literals is the model's frame by `rfl`, once `flags &&& IPv4DontFragment` stands on numerals
  by_cases h1 : a.chaddr.length = 6
  · by_cases h2 : a.ifMac.length = 6
    · rw [if_neg (not_not_intro h1), if_neg (not_not_intro h2), if_neg (fun h => h.elim (· h2) (· h1)),
        GenEth.frame, show (GenEth.ip a).flags = 2 from rfl, GenEth.ipv4DontFragment]
      rfl
    · rw [if_neg (not_not_intro h1), if_pos h2, if_pos (Or.inl h2)]
  · rw [if_pos h1, if_pos (Or.inr h1)]

example : GenEth.sendEthernet
    { ifIndex := 3, ifMac := [2, 0, 0, 0, 0, 1], chaddr := [2, 0, 0, 0, 0, 9], siaddr := [0, 0, 0, 0],
      yiaddr := [192, 0, 2, 77], wire := [2, 1, 6, 0] } =
    some { dstMac := [2, 0, 0, 0, 0, 9], srcMac := [2, 0, 0, 0, 0, 1], etherType := 0x0800, ipVersion := 4, ttl := 64,
           dontFrag := true, proto := 17, srcIp := [0, 0, 0, 0], dstIp := [192, 0, 2, 77], srcPort := 67, dstPort := 68,
           payload := [2, 1, 6, 0], outIf := 3 } := by decide
example : GenEth.sendEthernet
    { ifIndex := 3, ifMac := [2, 0, 0, 0, 0, 1], chaddr := [1, 2, 3, 4, 5, 6, 7, 8], siaddr := [0, 0, 0, 0],
      yiaddr := [192, 0, 2, 77], wire := [2, 1, 6, 0] } = none := by decide

theorem Eth.sendEthernet_some (a : Eth.Args) (f : Eth.Frame) (h : Eth.sendEthernet a = some f) :
    f = { dstMac := a.chaddr, srcMac := a.ifMac, etherType := 0x0800, ipVersion := 4, ttl := 64, dontFrag := true,
          proto := 17, srcIp := a.siaddr, dstIp := a.yiaddr, srcPort := 67, dstPort := 68, payload := a.wire,
          outIf := a.ifIndex } := by
  unfold Eth.sendEthernet at h
  split at h
  · cases h
  · exact (Option.some.inj h).symm

/-- C15, link-level clause, on the model: what is sent satisfies `frameOK` -/
theorem C15_frame : ∀ a f, Eth.sendEthernet a = some f → Eth.frameOK a f = true := by
  intro a f h
  rw [Eth.sendEthernet_some a f h]
  simp [Eth.frameOK]

/-- an OFFER to 02:00:00:00:00:09 / 192.0.2.77 on interface 3: the frame that is sent, and it is accepted -/
example :
    let a : Eth.Args := { ifIndex := 3, ifMac := [2, 0, 0, 0, 0, 1], chaddr := [2, 0, 0, 0, 0, 9], siaddr := [192, 0, 2, 1],
                          yiaddr := [192, 0, 2, 77], wire := [2, 1, 6, 0, 1, 2, 3, 4] }
    ∃ f, Eth.sendEthernet a = some f ∧ Eth.frameOK a f = true ∧ f.dstMac = [2, 0, 0, 0, 0, 9] ∧ f.dstIp = [192, 0, 2, 77] := by
  exact ⟨_, rfl, by decide, rfl, rfl⟩
/-- `frameOK` is not trivially true: the same frame sent to the broadcast address is refused -/
example :
    let a : Eth.Args := { ifIndex := 3, ifMac := [2, 0, 0, 0, 0, 1], chaddr := [2, 0, 0, 0, 0, 9], siaddr := [192, 0, 2, 1],
                          yiaddr := [192, 0, 2, 77], wire := [2, 1, 6, 0, 1, 2, 3, 4] }
    ∀ f, Eth.sendEthernet a = some f → Eth.frameOK a { f with dstIp := [255, 255, 255, 255] } = false := by
  intro a f h
  cases h
  decide

theorem C15_frame_fields : ∀ a f, Eth.sendEthernet a = some f →
    f.dstMac = a.chaddr ∧ f.dstIp = a.yiaddr ∧ f.srcPort = 67 ∧ f.dstPort = 68 ∧ f.payload = a.wire ∧ f.outIf = a.ifIndex := by
  intro a f h
  rw [Eth.sendEthernet_some a f h]
  exact ⟨rfl, rfl, rfl, rfl, rfl, rfl⟩

example : ∃ a f, Eth.sendEthernet a = some f ∧ f.dstMac = [2, 0, 0, 0, 0, 9] ∧ f.dstIp = [192, 0, 2, 77] ∧ f.outIf = 3 :=
  ⟨{ ifIndex := 3, ifMac := [2, 0, 0, 0, 0, 1], chaddr := [2, 0, 0, 0, 0, 9], siaddr := [192, 0, 2, 1],
     yiaddr := [192, 0, 2, 77], wire := [2, 1, 6, 0] }, _, rfl, rfl, rfl, rfl⟩

/-- nothing is sent exactly when one of the two hardware addresses is not six bytes long -/
theorem C15_frame_none_iff (a : Eth.Args) :
    Eth.sendEthernet a = none ↔ (a.ifMac.length ≠ 6 ∨ a.chaddr.length ≠ 6) := by
  unfold Eth.sendEthernet
  by_cases h : a.ifMac.length ≠ 6 ∨ a.chaddr.length ≠ 6
  · simp [h]
  · rw [if_neg h]; simp [h]

/-- an 8-byte chaddr (hlen 8 in the request): nothing is sent; a 6-byte one: something is -/
example : Eth.sendEthernet { ifIndex := 3, ifMac := [2, 0, 0, 0, 0, 1], chaddr := [1, 2, 3, 4, 5, 6, 7, 8], siaddr := [0, 0, 0, 0],
                             yiaddr := [192, 0, 2, 77], wire := [2, 1, 6, 0] } = none := by decide
example : Eth.sendEthernet { ifIndex := 3, ifMac := [2, 0, 0, 0, 0, 1], chaddr := [2, 0, 0, 0, 0, 9], siaddr := [0, 0, 0, 0],
                             yiaddr := [192, 0, 2, 77], wire := [2, 1, 6, 0] } ≠ none := by decide

theorem GEN_eth_frame : ∀ a f, GenEth.sendEthernet a = some f → Eth.frameOK a f = true := by
  intro a f h
  rw [GEN_eth_sendEthernet_eq] at h
  exact C15_frame a f h

example : ∃ a f, GenEth.sendEthernet a = some f ∧ Eth.frameOK a f = true ∧ f.dstMac = [2, 0, 0, 0, 0, 9] ∧ f.dstIp = [192, 0, 2, 77] :=
  ⟨{ ifIndex := 3, ifMac := [2, 0, 0, 0, 0, 1], chaddr := [2, 0, 0, 0, 0, 9], siaddr := [192, 0, 2, 1],
     yiaddr := [192, 0, 2, 77], wire := [2, 1, 6, 0] }, _, rfl, by decide, rfl, rfl⟩

/-- `Eth.dhcpLayerBytes` is what the real gopacket makes of the real `ToBytes()` on the translator's replies -/
theorem GEN_eth_payload_probes : ∀ p ∈ GenEth.payloadProbes, Eth.dhcpLayerBytes p.1 = p.2 := by decide +kernel

/-- the translator did run the libraries (three replies), and the payload is NOT `resp.ToBytes()`: the padding
after the End option is gone (first two), only a reply longer than 300 bytes is sent whole -/
theorem GEN_eth_payload_not_toBytes :
    GenEth.payloadProbes.map (fun p => (p.1.length, p.2.length, decide (p.1 = p.2))) =
      [(300, 256, false), (300, 241, false), (336, 336, true)] := by decide +kernel

end CoreDhcp
