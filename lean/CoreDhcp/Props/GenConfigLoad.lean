/-
GEN, unit `configload` (DESIGN.md §1.5b): the front of `config.Load`, from `New()` through the test of the error of
`c.v.ReadInConfig()`, as regenerated from config/config.go, is the model of Model/ConfigLoad.lean; composed with
unit `config` (Props/GenConfig.lean: `Load` from the next statement on) all of `Load` is the model C18 is about,
applied to what viper read.  What viper does with the settings (search, `$HOME` expansion, YAML decoding) is out
of the repository and stays an input (`World.readInConfig`): the statements are about WHICH settings the code
hands to WHICH instance, in which order, and what it does with the answer.
-/
import CoreDhcp.Generated.ConfigLoad
import CoreDhcp.Props.GenConfig
import CoreDhcp.Props.C18
import CoreDhcp.Props.GenMainReg
namespace CoreDhcp
open ConfigLoad
open GenCfg (Out Env RawConfig Servers)

theorem GEN_configload_load_eq {ρ τ : Type} (path : String) (w : World ρ) (tail : ρ → τ) :
    GenConfigLoad.load path w tail = ConfigLoad.load path w tail := by
  unfold GenConfigLoad.load ConfigLoad.load ConfigLoad.loadOn ConfigLoad.settingsFrom
  split <;> rfl

/-- the `parseConfig` calls of the rest of `Load`: the two that unit `config` translates -/
theorem GEN_configload_tail_eq : GenConfigLoad.tailCalls = ConfigLoad.tailCalls := rfl

theorem GenConfigLoad.load_closed {ρ τ : Type} (path : String) (w : World ρ) (tail : ρ → τ) :
    GenConfigLoad.load path w tail =
      ⟨settingsFor path, match w.readInConfig (settingsFor path) with
        | none => .readErr
        | some raw => .parsed (tail raw)⟩ := by
  rw [GEN_configload_load_eq]
  unfold ConfigLoad.load ConfigLoad.loadOn settingsFor
  cases w.readInConfig (settingsFrom Settings.fresh path) <;> rfl

theorem ConfigLoad.settingsFor_explicit (path : String) (h : path ≠ "") :
    settingsFor path = ⟨some "yml", some path, none, []⟩ := by
  unfold settingsFor settingsFrom
  rw [if_pos h]
  rfl

theorem ConfigLoad.settingsFor_search :
    settingsFor "" = ⟨some "yml", none, some "config",
      [".", "$XDG_CONFIG_HOME/coredhcp/", "$HOME/.coredhcp/", "/etc/coredhcp/"]⟩ := rfl

theorem ConfigLoad.settingsFor_configType (path : String) : (settingsFor path).configType = some "yml" := by
  by_cases h : path = ""
  · rw [h, settingsFor_search]
  · rw [settingsFor_explicit path h]

/-- the ONE `ReadInConfig()` of `Load` is made on an instance that was told exactly `settingsFor path` -/
theorem CONFIGLOAD_asked {ρ τ : Type} (path : String) (w : World ρ) (tail : ρ → τ) :
    (GenConfigLoad.load path w tail).asked = settingsFor path := by
  rw [GenConfigLoad.load_closed]

/-- the file is decoded as YAML whatever its name or extension (`-c coredhcp.json` is not decoded as JSON) -/
theorem CONFIGLOAD_type_is_yaml_always {ρ τ : Type} (path : String) (w : World ρ) (tail : ρ → τ) :
    (GenConfigLoad.load path w tail).asked.configType = some "yml" := by
  rw [CONFIGLOAD_asked, settingsFor_configType]

/-- a `-c` value reaches viper's `SetConfigFile` as it is, and then nothing is searched -/
theorem CONFIGLOAD_explicit_path_verbatim {ρ τ : Type} (path : String) (h : path ≠ "") (w : World ρ) (tail : ρ → τ) :
    (GenConfigLoad.load path w tail).asked.configFile = some path ∧
    (GenConfigLoad.load path w tail).asked.searchPaths = [] ∧
    (GenConfigLoad.load path w tail).asked.configName = none := by
  rw [CONFIGLOAD_asked, settingsFor_explicit path h]
  exact ⟨rfl, rfl, rfl⟩

/-- without `-c` (the empty string is the default of --conf): the literal directories of the source, in source
order, which is the order viper searches them in -/
theorem CONFIGLOAD_search_order {ρ τ : Type} (w : World ρ) (tail : ρ → τ) :
    (GenConfigLoad.load "" w tail).asked.configFile = none ∧
    (GenConfigLoad.load "" w tail).asked.configName = some "config" ∧
    (GenConfigLoad.load "" w tail).asked.searchPaths =
      [".", "$XDG_CONFIG_HOME/coredhcp/", "$HOME/.coredhcp/", "/etc/coredhcp/"] := by
  rw [CONFIGLOAD_asked, settingsFor_search]
  exact ⟨rfl, rfl, rfl⟩

/-- viper is consulted once, with these settings and no others -/
theorem CONFIGLOAD_reads_once_with_these_settings {ρ τ : Type} (path : String) (w w' : World ρ) (tail : ρ → τ)
    (h : w.readInConfig (settingsFor path) = w'.readInConfig (settingsFor path)) :
    GenConfigLoad.load path w tail = GenConfigLoad.load path w' tail := by
  rw [GenConfigLoad.load_closed, GenConfigLoad.load_closed, h]

/-- when `ReadInConfig()` fails `Load` returns the error at once: nothing is parsed -/
theorem CONFIGLOAD_read_error_aborts {ρ τ : Type} (path : String) (w : World ρ)
    (h : w.readInConfig (settingsFor path) = none) :
    (∀ tail : ρ → τ, (GenConfigLoad.load path w tail).result = .readErr) ∧
    (∀ tail tail' : ρ → τ, GenConfigLoad.load path w tail = GenConfigLoad.load path w tail') :=
  ⟨fun _ => by rw [GenConfigLoad.load_closed, h],
    fun _ _ => by rw [GenConfigLoad.load_closed, GenConfigLoad.load_closed, h]⟩

/-- the rest of `Load` runs on what viper delivered FOR THESE SETTINGS, on the instance that read it -/
theorem CONFIGLOAD_parses_what_was_read {ρ τ : Type} (path : String) (w : World ρ) (tail : ρ → τ) (raw : ρ)
    (h : w.readInConfig (settingsFor path) = some raw) :
    (GenConfigLoad.load path w tail).result = .parsed (tail raw) := by
  rw [GenConfigLoad.load_closed, h]

/-- Every call of `Load` starts from an instance of its own (`c := New()`, `New` = `&Config{v: viper.New()}`): it is
the model's `loadOn` at the FRESH instance.  (As far as the source shows: what `viper.New()` itself shares between
instances is viper's.) -/
theorem CONFIGLOAD_fresh_instance {ρ τ : Type} (p1 p2 : String) (w1 w2 : World ρ) (t1 t2 : ρ → τ) :
    GenConfigLoad.load p2 w2 t2 = ConfigLoad.loadOn Settings.fresh p2 w2 t2 ∧
    (let _first := GenConfigLoad.load p1 w1 t1
     (GenConfigLoad.load p2 w2 t2).asked = settingsFor p2) :=
  ⟨GEN_configload_load_eq p2 w2 t2, CONFIGLOAD_asked p2 w2 t2⟩

/-- the seam with unit `config`: the `parseConfig` calls this unit sees behind the read are the ones that unit
translates, version 6 first -/
theorem CONFIGLOAD_tail_is_unit_config :
    GenConfigLoad.tailCalls = [Gen10.ver true, Gen10.ver false] ∧
    ∀ (env : Env) (cfg : RawConfig),
      GenCfg.load env cfg =
        (match GenCfg.parseConfig 6 env cfg ⟨none, none⟩ with
         | .error e => .error e
         | .panic => .panic
         | .ok st => match GenCfg.parseConfig 4 env cfg st with
           | .error e => .error e
           | .panic => .panic
           | .ok st' => if st'.s6.isNone = true ∧ st'.s4.isNone = true then .error .needOne else .ok st') := by
  refine ⟨rfl, ?_⟩
  intro env cfg
  unfold GenCfg.load
  dsimp only
  cases GenCfg.parseConfig 6 env cfg ⟨none, none⟩ with
  | error e => rfl
  | panic => rfl
  | ok st =>
    dsimp only
    cases GenCfg.parseConfig 4 env cfg st <;> rfl

/-- ALL of `config.Load`: the generated front with the generated rest (unit `config`) as its tail; `w` = viper,
`env` = the standard library's answers to the rest -/
def GenConfigLoad.fullLoad (env : Env) (path : String) (w : World RawConfig) : Run (Out Servers) :=
  GenConfigLoad.load path w (GenCfg.load env)

/-- the configuration `Load` returns next to a nil error (DHCPv6 section, DHCPv4 section); `none` = an error -/
def ConfigLoad.returned : Run (Out Servers) → Option (Option ServerConfig × Option ServerConfig)
  | ⟨_, .parsed (.ok st)⟩ => some (st.s6, st.s4)
  | _ => none

theorem GenConfigLoad.returned_fullLoad (env : Env) (path : String) (w : World RawConfig) :
    returned (GenConfigLoad.fullLoad env path w) =
      (w.readInConfig (settingsFor path)).bind fun raw =>
        (Gen10.opt (GenCfg.load env raw)).map fun st => (st.s6, st.s4) := by
  unfold GenConfigLoad.fullLoad
  rw [GenConfigLoad.load_closed]
  cases w.readInConfig (settingsFor path) with
  | none => rfl
  | some raw => dsimp only [Option.bind_some]; cases GenCfg.load env raw <;> rfl

/-- `Load path` = C18's model (`loadConfig`, the function `C18_holds` is about) applied to the two sections of the
document viper read for `settingsFor path`, as viper/cast present them (`Gen10.view`) -/
theorem CONFIGLOAD_load_is_C18_model (env : Env) (ifs : List Iface) (h : env.ifs = some ifs) (path : String)
    (w : World RawConfig) :
    returned (GenConfigLoad.fullLoad env path w) =
      (w.readInConfig (settingsFor path)).bind
        (fun raw => loadConfig ifs (raw.s6.map (Gen10.view env)) (raw.s4.map (Gen10.view env))) := by
  simp only [GenConfigLoad.returned_fullLoad, GEN_cfg_load_eq env _ ifs h]

/-- C18 for the file named -/
theorem CONFIGLOAD_C18 (env : Env) (ifs : List Iface) (h : env.ifs = some ifs) (path : String)
    (w : World RawConfig) (raw : RawConfig) (hr : w.readInConfig (settingsFor path) = some raw) :
    C18.holds ifs (raw.s6.map (Gen10.view env)) (raw.s4.map (Gen10.view env))
      (returned (GenConfigLoad.fullLoad env path w)) = true := by
  rw [CONFIGLOAD_load_is_C18_model env ifs h path w, hr, Option.bind_some]
  exact C18_holds ifs _ _

/-- `Load` never panics, whatever viper answers -/
theorem CONFIGLOAD_never_panics (env : Env) (path : String) (w : World RawConfig) :
    (GenConfigLoad.fullLoad env path w).result ≠ .parsed .panic := by
  unfold GenConfigLoad.fullLoad
  rw [GenConfigLoad.load_closed]
  cases w.readInConfig (settingsFor path) with
  | none => nofun
  | some raw => exact fun h => GEN_cfg_load_no_panic env raw (Result.parsed.inj h)

/-- With unit `mainreg`: when `config.Load` in `main`'s world is this `Load` (`code` names a configuration), every
server start in every run of `main` is with the configuration parsed from what viper delivered for the settings of
the --conf value. -/
theorem CONFIGLOAD_main_reads_conf_flag (levels : List String) (desired : List PluginDecl) (reg0 : MainReg.Reg)
    (f : MainReg.Flags) (mw : MainReg.World) (env : Env) (vw : World RawConfig)
    (code : Option ServerConfig × Option ServerConfig → MainReg.Cfg)
    (hw : ∀ p, mw.load p = (returned (GenConfigLoad.fullLoad env p vw)).map code)
    (c : MainReg.Cfg) (hc : MainReg.Step.start c ∈ MainReg.main levels desired reg0 f mw) :
    (∃ raw cfg, vw.readInConfig (settingsFor f.conf) = some raw ∧
        returned (GenConfigLoad.fullLoad env f.conf vw) = some cfg ∧ c = code cfg) ∧
    (settingsFor f.conf).configType = some "yml" ∧
    (f.conf ≠ "" → (settingsFor f.conf).configFile = some f.conf ∧ (settingsFor f.conf).searchPaths = []) := by
  have hl := ((MAINREG_config_before_sockets levels desired reg0 f mw).2.2.2 c hc).1
  rw [hw] at hl
  refine ⟨?_, ?_, ?_⟩
  · obtain ⟨cfg, hret, hcode⟩ := Option.map_eq_some_iff.1 hl
    have hb := hret
    rw [GenConfigLoad.returned_fullLoad] at hb
    obtain ⟨raw, hr, _⟩ := Option.bind_eq_some_iff.1 hb
    exact ⟨raw, cfg, hr, hret, hcode.symm⟩
  · exact settingsFor_configType f.conf
  · intro hne
    rw [settingsFor_explicit f.conf hne]
    exact ⟨rfl, rfl⟩

/-- a viper that decodes by what it was told, and by the extension when it was told nothing -/
def ConfigLoad.exWorld : World String :=
  ⟨fun s => match s.configFile, s.configType with
    | some _, some t => some ("decoded as " ++ t)
    | some _, none => some "decoded by extension"
    | none, _ => none⟩

/-- `-c coredhcp.json`: read from that file, as YAML, and the rest of `Load` gets that document -/
example : GenConfigLoad.load "coredhcp.json" exWorld id =
    ⟨⟨some "yml", some "coredhcp.json", none, []⟩, .parsed "decoded as yml"⟩ := by decide +kernel
/-- no -c and nothing found: the read error, with the search settings -/
example : GenConfigLoad.load "" exWorld id =
    ⟨⟨some "yml", none, some "config", [".", "$XDG_CONFIG_HOME/coredhcp/", "$HOME/.coredhcp/", "/etc/coredhcp/"]⟩,
      .readErr⟩ := rfl
-- the hypotheses of `CONFIGLOAD_parses_what_was_read` / `_read_error_aborts` are satisfiable
example : exWorld.readInConfig (settingsFor "coredhcp.json") = some "decoded as yml" := by decide +kernel
example : exWorld.readInConfig (settingsFor "") = none := by decide

/-- `Load` with `SetConfigType("yml")` moved into the search branch (a seeded change for C18): another function;
with an explicit path the instance has been told no type. -/
def ConfigLoad.loadR5 {ρ τ : Type} (path : String) (w : World ρ) (tail : ρ → τ) : Run τ :=
  let v0 := Settings.fresh
  if path ≠ "" then
    let v1 := v0.setConfigFile path
    match w.readInConfig v1 with
    | none => ⟨v1, .readErr⟩
    | some raw => ⟨v1, .parsed (tail raw)⟩
  else
    let v1 := v0.setConfigType "yml"
    let v2 := v1.setConfigName "config"
    let v3 := searchDirs.foldl Settings.addConfigPath v2
    match w.readInConfig v3 with
    | none => ⟨v3, .readErr⟩
    | some raw => ⟨v3, .parsed (tail raw)⟩

-- it violates `CONFIGLOAD_type_is_yaml_always`,
example : (loadR5 "coredhcp.json" exWorld id).asked.configType ≠ some "yml" := by decide
-- and `-c coredhcp.json` is then decoded by its extension, where `Load` decodes it as YAML;
example : (loadR5 "coredhcp.json" exWorld id).result = .parsed "decoded by extension" ∧
    (GenConfigLoad.load "coredhcp.json" exWorld id).result = .parsed "decoded as yml" := ⟨rfl, rfl⟩
-- without a path the variant and `Load` agree: the `config` engine's default-path samples cannot tell
example : loadR5 "" exWorld id = GenConfigLoad.load "" exWorld id := rfl

/-- A `Load` on a SHARED instance (the package-global viper, or a `Config` reused): after `Load("/x.yml")` a
`Load("")` would still carry the explicit file — `CONFIGLOAD_search_order` (no file named) fails for it. -/
example : (loadOn (GenConfigLoad.load "/x.yml" exWorld id).asked "" exWorld id).asked.configFile = some "/x.yml" := rfl
-- and the search directories would pile up from call to call
example : (loadOn (GenConfigLoad.load "" exWorld id).asked "" exWorld id).asked.searchPaths.length = 8 := by decide

/-- the search order is part of the statement: the reversed list is another list -/
example : searchDirs.reverse ≠ searchDirs := by decide

end CoreDhcp
