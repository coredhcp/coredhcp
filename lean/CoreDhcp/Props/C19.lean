/-
C19 — What a built-in plugin accepts at start-up it can put on the wire: setup returns an error
or a handler whose replies serialise and parse back to the same options.
The model's handlers are total functions: "returns without panicking" is checked on the
implementation by the conformance run.
-/
import CoreDhcp.Proofs.OptPlug
namespace CoreDhcp
open Plug

/-- DHCPv4: acceptance alone suffices, without the proviso of `C19_setup_wireOK` -/
theorem C19_setup_wireOK4 (name : String) (args : List ArgOracle) (cfg : Cfg4)
    (hwf : ∀ a ∈ args, a.wf = true) (h : plugSetup4 name args = some (.ok cfg)) : C19.wireOK (.v4 cfg) = true := by
  have ha := plugSetup4_accepted name args cfg h
  cases cfg with
  | dns c => exact dns4_wire args c hwf ha
  | netmask c => exact beq_iff_eq.mpr (netmask_wire args c hwf ha)
  | router c => exact dns4_wire args c hwf ha  -- `router.setup` is `dns4.setup`
  | search c => exact search_wire args c ha
  | staticroute c => exact staticroute_wire args c hwf ha
  | mtu c | leasetime c | ipv6only c => exact inRange4_of_accepted args _ ha
  | autoconfigure c => exact decide_eq_true (autoconfigure_wire args c ha)
  | nbp c => rfl
  | sleep c => rfl
  | serverid c => exact beq_iff_eq.mpr (serverid4_wire args c hwf ha)

theorem setup6_wireOK (name : String) (args : List ArgOracle) (cfg : Cfg6) (hwf : ∀ a ∈ args, a.wf = true)
    (h : plugSetup6 name args = some (.ok cfg)) (hfit : C19.fits (.v6 cfg) = true) : C19.wireOK (.v6 cfg) = true := by
  have ha := plugSetup6_accepted name args cfg h
  cases cfg with
  | dns c => exact Bool.and_eq_true_iff.mpr ⟨dns6_wire args c hwf ha, hfit⟩
  | search c => exact Bool.and_eq_true_iff.mpr ⟨search_wire args c ha, hfit⟩
  | nbp c => exact hfit
  | sleep c => rfl
  | serverid c => exact decide_eq_true (serverid6_wire args c hwf ha)

/-- Every argument vector (with well-formed standard-library answers) that a built-in plugin's
setup accepts yields a configuration satisfying `C19.wireOK` — IPv4 static routes with a prefix
length ≤ 32 and no stray bits, search domains of 1..63 byte labels and ≤ 253 bytes, four byte
addresses, … — provided the DHCPv6 option bodies fit their 16-bit length field (`C19.fits`): no
plugin checks that (see `C19_oversize6_refuted`). -/
theorem C19_setup_wireOK (proto : Nat) (name : String) (args : List ArgOracle) (cfg : PlugCfg)
    (hwf : ∀ a ∈ args, a.wf = true) (h : plugSetup proto name args = some (.ok cfg))
    (hfit : C19.fits cfg = true) : C19.wireOK cfg = true := by
  rcases plugSetup_ok proto name args cfg h with ⟨c, hc, rfl⟩ | ⟨c, hc, rfl⟩
  · exact C19_setup_wireOK4 name args c hwf hc
  · exact setup6_wireOK name args c hwf hc hfit

/-- "Arguments that cannot be honoured on the wire are rejected at start-up": a destination that
is not an IPv4 network (mask of 128 bits), or a gateway that is not an IPv4 address, anywhere in
the argument list makes staticroute's setup fail. -/
theorem C19_staticroute_rejects_non_ipv4 (args : List ArgOracle) (a : ArgOracle) (ha : a ∈ args)
    (hbad : (∃ c, a.sr.cidr = some c ∧ c.bits ≠ 32) ∨ (∃ b, a.sr.router = some (.v6 b))) :
    staticroute.setup args = .error () := by
  have hr : staticroute.route a = none := by
    cases hr : staticroute.route a with
    | none => rfl
    | some r =>
      obtain ⟨c, rt, hc, hb, _, _, hrt, hg⟩ := route_some a r hr
      rcases hbad with ⟨c', hc', hb'⟩ | ⟨b, hb'⟩
      · rw [hc] at hc'; cases hc'
        exact absurd hb hb'
      · rw [hrt] at hb'; cases hb'
        cases hg
  unfold staticroute.setup
  split
  · rfl
  · rw [allSome_none _ _ a ha hr]

/-- "Arguments that cannot be honoured on the wire are rejected at start-up" (D22): an MTU that does
not fit the two bytes of option 26 makes mtu's set-up fail. -/
theorem C19_mtu_rejects_out_of_range (args : List ArgOracle) (a : ArgOracle) (n : Int) (ha : a ∈ args)
    (hn : a.int = some n) (hbad : n < 0 ∨ 65535 < n) : mtu.setup args = .error () := by
  cases h : mtu.setup args with
  | error e => rfl
  | ok c =>
    obtain ⟨a', rfl, hi, h0, h1⟩ := mtu_setup_ok args c h
    cases List.mem_singleton.mp ha
    rw [hn] at hi
    cases hi
    omega

/-- (D23) a lease time that is negative or longer than 2^32-1 seconds makes lease_time's set-up fail
(the first argument counts; further ones are ignored) -/
theorem C19_leasetime_rejects_out_of_range (a : ArgOracle) (rest : List ArgOracle) (d : Int)
    (hd : a.dur = some d) (hbad : d < 0 ∨ 4294967295 * 1000000000 < d) : leasetime.setup (a :: rest) = .error () := by
  unfold leasetime.setup
  simp only [hd]
  rw [if_pos (by omega)]

/-- (D24) a V6ONLY_WAIT that is negative or longer than 2^32-1 seconds makes ipv6only's set-up fail -/
theorem C19_ipv6only_rejects_out_of_range (a : ArgOracle) (rest : List ArgOracle) (d : Int)
    (hd : a.dur = some d) (hbad : d < 0 ∨ 4294967295 * 1000000000 < d) : ipv6only.setup (a :: rest) = .error () := by
  unfold ipv6only.setup
  simp only [hd]
  rw [if_pos (by omega)]

/-- RFC 3442 routes satisfying `wireOK` decode (dhcpv4 `Routes.FromBytes`) to themselves -/
theorem C19_routes_roundtrip (rs : List Route) (h : rs.all C19.routeOK = true) :
    decodeRoutes (encRoutes rs) = some rs := by
  refine decode_items decRoutes encRoute (C19.routeOK · = true) 0 (fun fuel _ => ?_)
    (fun r _ => List.cons_ne_nil _ _) (fun r hr => decRoutes_encRoute r hr) rs (List.all_eq_true.mp h) _ (Nat.le_refl _)
  cases fuel <;> rfl

/-- a search list satisfying `wireOK` — every name made of labels of 1 to 63 bytes — decodes
(rfc1035label `labelsFromBytes`) to itself: the full list, any number of names -/
theorem C19_labels_roundtrip (names : List Bytes) (h : names.all C19.nameOK = true) :
    decodeLabels (encLabels names) = some names :=
  Labels.roundtrip names (fun n hn => Labels.nameParts_of_nameOK n (List.all_eq_true.mp h n hn))

theorem C19_ips_roundtrip (ips : List Bytes) (h : (!ips.isEmpty && ips.all (·.length == 4)) = true) :
    decIPs4 (encIPs ips) = some ips := by
  simp only [Bool.and_eq_true, Bool.not_eq_true', List.all_eq_true, beq_iff_eq] at h
  exact ips4_roundtrip ips (List.isEmpty_eq_false_iff.mp h.1) h.2

theorem C19_bootparams_roundtrip (ps : List Bytes) (h : ∀ p ∈ ps, p.length < 65536) :
    decodeBootParams (encBootParams ps) = some ps := by
  -- no parameter is too long to be sent, so all are
  have he : encBootParams ps = ps.flatMap fun p => be 2 p.length ++ p := by
    rw [encBootParams, List.filter_eq_self.mpr fun p hp => decide_eq_true (h p hp)]; rfl
  rw [decodeBootParams, he]
  refine decode_items decBootParams _ (·.length < 65536) 0 (fun fuel _ => ?_) (fun p _ => ?_)
    (fun p hp fuel tail => decBootParams_step p hp fuel tail) ps h _ (Nat.le_refl _)
  · cases fuel <;> rfl
  · rw [be]
    exact List.cons_ne_nil _ _

/-- Finding (not repaired; extreme): the proviso of `C19_setup_wireOK` is needed. A boot file URL
of more than 65535 bytes is accepted by the DHCPv6 nbp plugin although option 59 cannot carry it;
likewise ≥ 4096 DNS servers or search domains adding up to more than 64 KiB. The implementation
then sends a reply whose option length wrapped around (`rt fail:unparsable` in the corpus). -/
theorem C19_oversize6_refuted (u : Bytes) (hu : 65535 < u.length) :
    let a : ArgOracle := { raw := u, url := some ⟨[], [], [], u, []⟩ }
    a.wf = true ∧ plugSetup 6 "nbp" [a] = some (.ok (.v6 (.nbp ⟨u, none⟩))) ∧
    C19.wireOK (.v6 (.nbp ⟨u, none⟩)) = false := by
  refine ⟨rfl, rfl, ?_⟩
  simp only [C19.wireOK, C19.fits6, Bool.and_true, decide_eq_false_iff_not]
  omega

end CoreDhcp
