/-
GEN, unit `storage` (DESIGN.md §1.5b): `loadDB`, `parseHWAddr`, `loadRecords`, `saveIPAddress`, `registerBackingDB` of
plugins/range/storage.go, regenerated from the go/ast into Generated/Storage.lean, against Model/HwKey.lean (the
parser), `loadRecords` of Model/Range.lean and the specs of Model/Storage.lean.  The two hand-written text primitives
(`parseUint`, `splitOn`) are compared with the real Go functions on the probe tables the translator computes.
-/
import CoreDhcp.Generated.Storage
import CoreDhcp.Props.C03Key
namespace CoreDhcp
open Storage

theorem Except.toOption_ok {ε α} (a : α) : (Except.ok a : Except ε α).toOption = some a := rfl
theorem Except.toOption_error {ε α} (e : ε) : (Except.error e : Except ε α).toOption = none := rfl

attribute [local simp] Except.toOption_ok Except.toOption_error

theorem Except.toOption_eq_some_iff {ε α} {x : Except ε α} {a : α} : x.toOption = some a ↔ x = .ok a := by
  cases x <;> simp

theorem Except.toOption_eq_none_iff {ε α} {x : Except ε α} : x.toOption = none ↔ ∃ e, x = .error e := by
  cases x <;> simp

theorem Storage.splitOn_colon (s : List Char) : splitOn ':' s = splitColon s := by
  induction s with
  | nil => rfl
  | cons c cs ih => simp only [splitOn, splitColon, ih]; rfl

theorem Storage.digitVal_of_ge (c : Char) (h : 128 ≤ c.toNat) : digitVal c = none := by
  unfold digitVal
  simp only
  generalize c.toNat = n at h
  rw [if_neg (by omega), if_neg (by omega), if_neg (by omega)]

theorem Storage.digit16_ascii_table :
    ∀ n : Fin 128, (digitVal (Char.ofNat n)).filter (· < 16) = parseHexDigit (Char.ofNat n) := by
  decide +kernel

/-- a character is a base-16 digit for `strconv.ParseUint` exactly when the model's `parseHexDigit` reads it,
with the same value: both are tables on the ASCII characters and read nothing beyond -/
theorem Storage.digit16 (c : Char) : (digitVal c).filter (· < 16) = parseHexDigit c := by
  by_cases h : c.toNat < 128
  · have := digit16_ascii_table ⟨c.toNat, h⟩
    rwa [Char.ofNat_toNat] at this
  · rw [digitVal_of_ge c (by omega), parseHexDigit_of_ge c (by omega)]; rfl

theorem Storage.parseUintAux_16_cons (acc : Nat) (c : Char) (cs : List Char) :
    parseUintAux 16 acc (c :: cs) =
      match parseHexDigit c with
      | some d => parseUintAux 16 (acc * 16 + d) cs
      | none => none := by
  rw [← digit16 c, parseUintAux]
  cases digitVal c with
  | none => rfl
  | some d =>
    by_cases h : d < 16
    · simp only [Option.filter_some, h, decide_true, if_true]
    · simp only [Option.filter_some, h, decide_false, Bool.false_eq_true, if_false]

/-- on one or two characters `strconv.ParseUint(_, 16, 8)` is the model's `parsePart` (the range check of
bit size 8 never fires) -/
theorem Storage.parseUint_16_8_short (p : List Char) (hl : p.length ≤ 2) : parseUint 16 8 p = parsePart p := by
  have h256 : (2 : Nat) ^ (if (8 : Nat) = 0 then 64 else 8) = 256 := by decide
  rcases p with _ | ⟨a, _ | ⟨b, _ | ⟨c, r⟩⟩⟩
  · rfl
  · simp only [parseUint, parsePart, parseUintAux_16_cons, h256]
    cases ha : parseHexDigit a with
    | none => rfl
    | some x =>
      simp only [parseUintAux, Nat.zero_mul, Nat.zero_add]
      rw [if_pos (parsePart_lt [a] x ha)]
  · simp only [parseUint, parsePart, parseUintAux_16_cons, h256]
    cases ha : parseHexDigit a with
    | none => rfl
    | some x =>
      cases hb : parseHexDigit b with
      | none => rfl
      | some y =>
        simp only [parseUintAux, Nat.zero_mul, Nat.zero_add]
        rw [Nat.mul_comm, if_pos (parsePart_lt [a, b] _ (by simp only [parsePart, ha, hb]))]
  · exact absurd (Nat.le_of_succ_le_succ (Nat.le_of_succ_le_succ hl)) (Nat.not_succ_le_zero _)

theorem Storage.length_le_byteLen (p : List Char) : p.length ≤ byteLen p := by
  induction p with
  | nil => simp [byteLen]
  | cons c cs ih =>
    have := Char.utf8Size_pos c
    simp only [byteLen, List.map_cons, List.sum_cons, List.length_cons] at ih ⊢
    omega

/-- a part the model accepts is one or two ASCII characters: `len(part) > 2` does not refuse it -/
theorem Storage.parsePart_byteLen (p : List Char) (b : Nat) (h : parsePart p = some b) : byteLen p ≤ 2 := by
  rcases (parsePart_eq_some p b).1 h with ⟨a, rfl, ha⟩ | ⟨a, c, x, y, rfl, ha, hc, -⟩
  · simp only [byteLen, List.map_cons, List.map_nil, List.sum_cons, List.sum_nil, parseHexDigit_utf8Size a b ha]
    omega
  · simp only [byteLen, List.map_cons, List.map_nil, List.sum_cons, List.sum_nil,
      parseHexDigit_utf8Size a x ha, parseHexDigit_utf8Size c y hc]
    omega

theorem GenStorage.parseHWAddrBody_eq (h : List Nat) (i : Nat) (p : List Char) :
    GenStorage.parseHWAddrBody h i p =
      match parsePart p with
      | none => if byteLen p > 2 then .error (.new "invalid hardware address byte %q")
                else .error (.lib "strconv.ParseUint")
      | some b =>
        match storeAt h i b with
        | none => .error .indexPanic
        | some h' => .ok h' := by
  unfold GenStorage.parseHWAddrBody
  -- the generated text tests the length first, reads the part with `ParseUint` and reduces the value modulo 256; the
  -- model's `parsePart` reads one or two characters and stays below 256
  by_cases hl : byteLen p > 2
  · rw [if_pos hl]
    cases hp : parsePart p with
    | none => exact (if_pos hl).symm
    | some b => exact absurd (parsePart_byteLen p b hp) (Nat.not_le.2 hl)
  · rw [if_neg hl, parseUint_16_8_short p (Nat.le_trans (length_le_byteLen p) (Nat.not_lt.1 hl))]
    cases hp : parsePart p with
    | none => exact (if_neg hl).symm
    | some b =>
      dsimp only
      rw [Nat.mod_eq_of_lt (parsePart_lt p b hp)]
      rfl

theorem Storage.storeAt_append (pre : List Nat) (n b : Nat) :
    storeAt (pre ++ List.replicate (n + 1) 0) pre.length b = some ((pre ++ [b]) ++ List.replicate n 0) := by
  unfold storeAt
  rw [if_pos (by rw [List.length_append, List.length_replicate]; omega),
    List.set_append_right _ _ (Nat.le_refl _), Nat.sub_self, List.replicate_succ, List.set_cons_zero,
    List.append_assoc]
  rfl

/-- `pre`: the bytes stored so far; the loop runs from index `pre.length` -/
theorem GenStorage.parseHWAddrLoop_spec (ps : List (List Char)) (pre : List Nat) :
    forIdxFrom GenStorage.parseHWAddrBody pre.length (pre ++ List.replicate ps.length 0) ps ≠ .error .indexPanic ∧
    (forIdxFrom GenStorage.parseHWAddrBody pre.length (pre ++ List.replicate ps.length 0) ps).toOption
      = (parseParts ps).map (pre ++ ·) := by
  induction ps generalizing pre with
  | nil =>
    refine ⟨nofun, ?_⟩
    simp only [forIdxFrom, parseParts, List.length_nil, List.replicate_zero, List.append_nil, Except.toOption_ok,
      Option.map_some]
  | cons p ps ih =>
    unfold forIdxFrom
    rw [GenStorage.parseHWAddrBody_eq]
    cases hp : parsePart p with
    | none =>
      have hm : parseParts (p :: ps) = none := by simp only [parseParts, hp]
      rw [hm]
      -- a part that does not parse ends the loop with one of the two errors of the body, neither the index panic
      by_cases hl : byteLen p > 2
      · simp only [hl, if_true]; exact ⟨nofun, rfl⟩
      · simp only [hl, if_false]; exact ⟨nofun, rfl⟩
    | some b =>
      simp only [List.length_cons, storeAt_append]
      have := ih (pre ++ [b])
      rw [List.length_append, List.length_singleton] at this
      refine ⟨this.1, ?_⟩
      rw [this.2]
      simp only [parseParts, hp]
      cases parseParts ps with
      | none => rfl
      | some bs => simp only [Option.map_some, List.append_assoc, List.cons_append, List.nil_append]

theorem GenStorage.parseHWAddr_spec (s : String) :
    GenStorage.parseHWAddr s ≠ .error .indexPanic ∧
    (GenStorage.parseHWAddr s).toOption = CoreDhcp.parseHWAddr s := by
  by_cases he : s = ""
  · subst he; exact ⟨nofun, rfl⟩
  · have hm : CoreDhcp.parseHWAddr s = parseParts (splitColon s.toList) := by
      unfold CoreDhcp.parseHWAddr parseChars
      split
      · next h => exact absurd (String.toList_eq_nil_iff.mp h) he
      · rfl
    have hg : GenStorage.parseHWAddr s = forIdxFrom GenStorage.parseHWAddrBody 0
        (List.replicate (splitColon s.toList).length 0) (splitColon s.toList) := by
      unfold GenStorage.parseHWAddr
      simp only [he, if_false, forIdx, splitOn_colon]
      -- the generated text re-wraps the loop's result: `match x with | .error e => .error e | .ok h => .ok h`
      generalize forIdxFrom GenStorage.parseHWAddrBody 0 _ _ = x
      cases x <;> rfl
    have h := GenStorage.parseHWAddrLoop_spec (splitColon s.toList) []
    rw [List.length_nil, List.nil_append] at h
    rw [hm, hg]
    refine ⟨h.1, h.2.trans ?_⟩
    cases parseParts (splitColon s.toList) <;> rfl

/-- the generated `parseHWAddr` (empty-string case, `strings.Split(s, ":")`, `len(part) > 2`,
`strconv.ParseUint(part, 16, 8)`, `hwaddr[i] = byte(b)`) is `CoreDhcp.parseHWAddr` of Model/HwKey.lean on EVERY string. -/
theorem GEN_storage_parseHWAddr_eq (s : String) :
    (GenStorage.parseHWAddr s).toOption = CoreDhcp.parseHWAddr s :=
  (GenStorage.parseHWAddr_spec s).2

/-- the byte store of the generated `parseHWAddr` is always in range: no panic, whatever the string -/
theorem GEN_storage_parseHWAddr_nopanic (s : String) : GenStorage.parseHWAddr s ≠ .error .indexPanic :=
  (GenStorage.parseHWAddr_spec s).1

example : GenStorage.parseHWAddr "07" = .ok [7] := by decide +kernel
example : GenStorage.parseHWAddr "0a:1b" = .ok [10, 27] := by decide +kernel
example : GenStorage.parseHWAddr "" = .ok [] := by rfl
example : GenStorage.parseHWAddr "7" = .ok [7] := by decide +kernel
example : GenStorage.parseHWAddr "1:2" = .ok [1, 2] := by decide +kernel
example : GenStorage.parseHWAddr "g1" = .error (.lib "strconv.ParseUint") := by rfl
example : GenStorage.parseHWAddr "001" = .error (.new "invalid hardware address byte %q") := by rfl
example : GenStorage.parseHWAddr "1ff" = .error (.new "invalid hardware address byte %q") := by rfl
example : GenStorage.parseHWAddr "01:" = .error (.lib "strconv.ParseUint") := by decide +kernel
example : CoreDhcp.parseHWAddr "1ff" = none := by decide +kernel

/-- the hand-written `parseUint` against the real `strconv.ParseUint`, with the base and bit size of the source,
on the probe strings -/
theorem GEN_storage_parseUint_probes :
    ∀ p ∈ GenStorage.parseUintProbes, parseUint GenStorage.parseUintArgs.1 GenStorage.parseUintArgs.2 p.1.toList = p.2 := by
  decide +kernel

/-- the hand-written `splitOn` against the real `strings.Split`, with the separator of the source, on the probe
strings -/
theorem GEN_storage_split_probes :
    ∀ p ∈ GenStorage.splitProbes, (splitOn GenStorage.splitSep p.1.toList).map String.ofList = p.2 := by
  decide +kernel

example : ("1ff", none) ∈ GenStorage.parseUintProbes := by decide +kernel
example : ("07", some 7) ∈ GenStorage.parseUintProbes := by decide +kernel
example : ("0a:1b", ["0a", "1b"]) ∈ GenStorage.splitProbes := by decide +kernel

theorem GenStorage.loadBody_spec (parseIP : String → NetIP) (m : RecMap) (row : RawRow) :
    (GenStorage.loadRecordsBody parseIP m row).toOption
      = (entryOf parseIP row).map (fun kv => mapStore m kv.1 kv.2) := by
  unfold GenStorage.loadRecordsBody entryOf
  -- the generated text looks at the parsed address as an `Except` and at the IP through `To4() == nil`, the spec at both in
  -- one `match`; the errors become `none`
  rw [← GEN_storage_parseHWAddr_eq]
  cases row.scanErr with
  | true => rfl
  | false =>
    cases GenStorage.parseHWAddr row.mac with
    | error e => rfl
    | ok a => cases parseIP row.ip <;> rfl

theorem GenStorage.loadLoop_spec (parseIP : String → NetIP) (rows : List RawRow) (m : RecMap) :
    (forEach (GenStorage.loadRecordsBody parseIP) m rows).toOption = loadRows parseIP m rows := by
  induction rows generalizing m with
  | nil => rfl
  | cons r rs ih =>
    have hb := GenStorage.loadBody_spec parseIP m r
    unfold forEach loadRows
    cases he : entryOf parseIP r with
    | none =>
      rw [he] at hb
      obtain ⟨e, hg⟩ := Except.toOption_eq_none_iff.1 hb
      rw [hg]; rfl
    | some kv =>
      rw [he] at hb
      rw [Except.toOption_eq_some_iff.1 hb]
      exact ih _

/-- the generated `loadRecords` is the spec `Storage.loadSpec`, for every answer of the driver
and every `net.ParseIP`. -/
theorem GEN_storage_loadRecords_spec (parseIP : String → NetIP) (q : QueryResult) :
    (GenStorage.loadRecords parseIP q).toOption = loadSpec parseIP q := by
  unfold GenStorage.loadRecords loadSpec
  dsimp only
  -- the same tests in the same order; the generated text has the loop where the spec has `loadRows`, and errors for `none`
  rw [← GenStorage.loadLoop_spec]
  cases q.queryErr with
  | true => rfl
  | false =>
    cases forEach (GenStorage.loadRecordsBody parseIP) [] q.rows with
    | error e => rfl
    | ok m => cases q.iterErr <;> rfl

/-- a row that cannot be loaded fails the load, whatever rows are put before it -/
theorem Storage.loadRecords_append_none (key : Mac → Option Mac) (pre done : List Row)
    (h : CoreDhcp.loadRecords key done = none) : CoreDhcp.loadRecords key (pre ++ done) = none := by
  induction pre with
  | nil => exact h
  | cons r rs ih =>
    simp only [List.cons_append, CoreDhcp.loadRecords, ih]
    cases key r.mac <;> rfl

/-- the generated map (`viewG`) and a map of the model (`viewM`) as lists of (key text, IP, expiry): the key of the Go map is
`HardwareAddr.String()` -/
def Storage.viewG (m : RecMap) : List (String × NetIP × Int) := m.map (fun p => (p.1, p.2.IP, p.2.expires))

def Storage.viewM (m : List (Mac × Rec)) : List (String × NetIP × Int) :=
  m.map (fun p => (macString p.1, NetIP.v4 p.2.ip, p.2.expires))

/-- what `rows.Scan` delivers (`raw`) for a row `r` of the model's table: the mac column holds `text r.mac`,
the ip column a text that net.ParseIP reads as `r.ip`, the expiry column `r.expiry`; any hostname -/
def Storage.Delivers (text : Mac → String) (parseIP : String → NetIP) (raw : RawRow) (r : Row) : Prop :=
  raw.scanErr = false ∧ raw.mac = text r.mac ∧ parseIP raw.ip = .v4 r.ip ∧ raw.expiry = r.expiry

theorem Storage.viewG_mapStore (M : RecMap) (k : String) (g : GRecord) :
    viewG (mapStore M k g) = (k, g.IP, g.expires) :: (viewG M).filter (fun x => !(x.1 == k)) := by
  unfold viewG mapStore
  rw [List.map_cons, List.filter_map]
  rfl

theorem Storage.viewM_recsPut (A : List (Mac × Rec)) (m : Mac) (r : Rec)
    (hA : ∀ p ∈ A, ∀ b ∈ p.1, b < 256) (hm : ∀ b ∈ m, b < 256) :
    viewM (recsPut A m r) =
      (macString m, NetIP.v4 r.ip, r.expires) :: (viewM A).filter (fun x => !(x.1 == macString m)) := by
  unfold viewM recsPut
  rw [List.map_cons, List.filter_map]
  refine congrArg (_ :: List.map _ ·) (List.filter_congr fun p hp => ?_)
  -- the model's keys are the bytes, the Go map's their texts: `macString` is injective on byte lists
  by_cases hpm : p.1 = m
  · simp [hpm]
  · have : macString p.1 ≠ macString m := fun h => hpm (C03_macString_injective p.1 m (hA p hp) hm h)
    simp only [Function.comp, beq_eq_false_iff_ne.mpr hpm, beq_eq_false_iff_ne.mpr this]

/-- `done`: the rows loaded so far, newest first (the model loads the OLDEST row of its list first) -/
theorem Storage.loadRows_sim (text : Mac → String) (parseIP : String → NetIP) (l : List (RawRow × Row)) :
    ∀ (M : RecMap) (done : List Row) (A : List (Mac × Rec)),
      (∀ p ∈ l, Delivers text parseIP p.1 p.2) → (∀ p ∈ A, ∀ b ∈ p.1, b < 256) →
      CoreDhcp.loadRecords (fun m => CoreDhcp.parseHWAddr (text m)) done = some A → viewG M = viewM A →
      (loadRows parseIP M (l.map Prod.fst)).map viewG
        = (CoreDhcp.loadRecords (fun m => CoreDhcp.parseHWAddr (text m)) ((l.map Prod.snd).reverse ++ done)).map viewM := by
  induction l with
  | nil => intro M done A _ _ hd hv; simp [loadRows, hd, hv]
  | cons x l ih =>
    obtain ⟨raw, r⟩ := x
    intro M done A hl hA hd hv
    obtain ⟨h1, h2, h3, h4⟩ : Delivers text parseIP raw r := hl (raw, r) List.mem_cons_self
    simp only [List.map_cons, List.reverse_cons, List.append_assoc, List.singleton_append, loadRows, entryOf, h1,
      Bool.false_eq_true, if_false, h2, h3]
    cases hk : CoreDhcp.parseHWAddr (text r.mac) with
    | none =>
      rw [loadRecords_append_none _ _ _ (by simp only [CoreDhcp.loadRecords, hk])]
      rfl
    | some m =>
      have hm := parseHWAddr_lt _ m hk
      apply ih _ _ (recsPut A m ⟨r.ip, r.expiry⟩)
      · exact fun p hp => hl p (List.mem_cons_of_mem _ hp)
      · intro p hp
        rcases List.mem_cons.mp hp with rfl | hp
        · exact hm
        · exact hA p (List.mem_filter.mp hp).1
      · simp only [CoreDhcp.loadRecords, hk, hd]
      · rw [viewG_mapStore, viewM_recsPut A m _ hA hm, hv, h4]

/-- the generated loader against the model's `loadRecords`, with `loadKey` := parse the stored text.
`l` lists the table OLDEST FIRST (the order in which sqlite delivers the rows: rowid order, `insert or replace`
gives the row it writes the largest rowid): per row what Scan delivers and the model's row. The model keeps its
table newest first, hence the `reverse`. Both results are seen as lists of (key text, IP, expiry): the Go map is
keyed by `HardwareAddr.String()`, the model's by the bytes. In particular BOTH let the newest of two rows with
the same hardware address win. -/
theorem GEN_storage_loadRecords_eq (text : Mac → String) (parseIP : String → NetIP) (l : List (RawRow × Row))
    (hl : ∀ p ∈ l, Delivers text parseIP p.1 p.2) :
    (GenStorage.loadRecords parseIP ⟨false, l.map Prod.fst, false⟩).toOption.map viewG
      = (CoreDhcp.loadRecords (fun m => CoreDhcp.parseHWAddr (text m)) (l.map Prod.snd).reverse).map viewM := by
  rw [GEN_storage_loadRecords_spec]
  have h := loadRows_sim text parseIP l [] [] [] hl (fun _ hp => nomatch hp) rfl rfl
  rw [List.append_nil] at h
  simp only [loadSpec, Bool.false_eq_true, if_false]
  rw [← h]
  cases loadRows parseIP [] (l.map Prod.fst) <;> rfl

/-- the same with the texts the table really holds: `HardwareAddr.String()` through the column's NUMERIC
affinity; the model's loader is then `loadRecords loadKeyConcrete`. -/
theorem GEN_storage_loadRecords_concrete (parseIP : String → NetIP) (l : List (RawRow × Row))
    (hl : ∀ p ∈ l, Delivers (fun m => sqliteAffinity (macString m)) parseIP p.1 p.2) :
    (GenStorage.loadRecords parseIP ⟨false, l.map Prod.fst, false⟩).toOption.map viewG
      = (CoreDhcp.loadRecords loadKeyConcrete (l.map Prod.snd).reverse).map viewM :=
  GEN_storage_loadRecords_eq _ parseIP l hl

/-- the query reads the table `loadDB` creates: every column of it, and only columns it has (in whatever order:
the generated loader names the columns, not the positions) -/
theorem GEN_storage_query_cols :
    GenStorage.loadQuery.table = GenStorage.schema.table ∧
    (∀ c ∈ GenStorage.loadQuery.columns, c ∈ GenStorage.schema.columns.map (·.name)) ∧
    (∀ c ∈ GenStorage.schema.columns.map (·.name), c ∈ GenStorage.loadQuery.columns) := by
  decide +kernel

-- two rows for the same hardware address, the older one first: the newer wins, in the code and in the model
example :
    (GenStorage.loadRecords (fun t => if t = "10.0.0.5" then .v4 0x0a000005#32 else if t = "10.0.0.9" then .v4 0x0a000009#32 else .nil)
      ⟨false, [⟨"7", "10.0.0.5", 100, "h", false⟩, ⟨"0a:1b", "10.0.0.9", 150, "k", false⟩, ⟨"7", "10.0.0.9", 200, "h2", false⟩], false⟩).toOption.map viewG
    = some [("07", .v4 0x0a000009#32, 200), ("0a:1b", .v4 0x0a000009#32, 150)] := by decide +kernel
example :
    (CoreDhcp.loadRecords loadKeyConcrete [⟨[7], 0x0a000009#32, 200⟩, ⟨[10, 27], 0x0a000009#32, 150⟩, ⟨[7], 0x0a000005#32, 100⟩]).map viewM
    = some [("07", .v4 0x0a000009#32, 200), ("0a:1b", .v4 0x0a000009#32, 150)] := by decide +kernel
example : (GenStorage.loadRecords (fun _ => .v4 1#32) ⟨false, [⟨"g1", "x", 1, "h", false⟩], false⟩).toOption = none := by decide +kernel
example : (GenStorage.loadRecords (fun _ => .other "::1") ⟨false, [⟨"07", "::1", 1, "h", false⟩], false⟩).toOption = none := by decide +kernel
example : (GenStorage.loadRecords (fun _ => .v4 1#32) ⟨false, [⟨"07", "x", 1, "h", false⟩], true⟩).toOption = none := by decide +kernel
example : (GenStorage.loadRecords (fun _ => .v4 1#32) ⟨false, [⟨"07", "x", 1, "h", true⟩], false⟩).toOption = none := by decide
example : (GenStorage.loadRecords (fun _ => .v4 1#32) ⟨false, [⟨"7", "x", 1, "h", false⟩], false⟩)
    = .ok [("07", ⟨.v4 1#32, 1, "h"⟩)] := by decide +kernel

/-- what `saveIPAddress` executes is one upsert on the key (mac text, ip text) writing
(expiry, hostname); a failing Prepare or Exec is an error. The key is the GENERATED primary key. -/
theorem GEN_storage_save_eq (prepareErr execErr : Bool) (mac : List Nat) (rec : GRecord) :
    (GenStorage.saveIPAddress prepareErr execErr mac rec).toOption.bind (Insert.asUpsert GenStorage.schema.primaryKey)
      = if prepareErr || execErr then none
        else some (saveSpec (macString mac) rec.IP.string rec.expires rec.hostname) := by
  cases prepareErr <;> cases execErr <;> rfl

example : (GenStorage.saveIPAddress false false [7] ⟨.v4 0x0a000005#32, 100, "h"⟩).toOption.bind (Insert.asUpsert ["mac", "ip"])
    = some ⟨"leases4", [("mac", .text "07"), ("ip", .text "10.0.0.5")], [("expiry", .int 100), ("hostname", .text "h")]⟩ := by decide +kernel
example : (GenStorage.saveIPAddress false true [7] ⟨.v4 5#32, 100, "h"⟩).toOption = none := by decide

/-- the table `loadDB` creates: columns mac, ip, expiry, hostname; primary key (mac, ip); `mac` is
declared `string`, which gives the column NUMERIC affinity — what `sqliteAffinity` (Model/HwKey.lean) models.
Should the declared type change (e.g. to `text`: TEXT affinity, texts kept as they are) this fails and the
affinity model has to be revisited. -/
theorem GEN_storage_schema :
    GenStorage.schema.table = "leases4" ∧
    GenStorage.schema.columns.map (·.name) = ["mac", "ip", "expiry", "hostname"] ∧
    GenStorage.schema.primaryKey = ["mac", "ip"] ∧
    (GenStorage.schema.columns.find? (·.name == "mac")).map (·.type) = some "string" ∧
    (GenStorage.schema.columns.find? (·.name == "mac")).map (fun c => affinityOfType c.type) = some .numeric := by
  decide +kernel

example : affinityOfType "string" = .numeric := by decide +kernel
example : affinityOfType "text" = .text := by decide +kernel
example : affinityOfType "int" = .integer := by decide +kernel
example : affinityOfType "VARCHAR(17)" = .text := by decide +kernel

/-- `loadDB`: sqlite3 on "file:" ++ path, the table created through it; either error fails it. -/
theorem GEN_storage_loadDB_eq (o : DbOracle) (path : String) :
    (GenStorage.loadDB o path).toOption
      = if o.openErr || o.createErr then none
        else some { driver := "sqlite3", dsn := "file:" ++ path, created := [GenStorage.schema] } := by
  unfold GenStorage.loadDB
  cases o.openErr <;> cases o.createErr <;> rfl

example : (GenStorage.loadDB ⟨false, false⟩ "leases.db").toOption = some ⟨"sqlite3", "file:leases.db", [GenStorage.schema]⟩ := by rfl

/-- `registerBackingDB` against `Storage.registerSpec`: a registered database is never swapped;
otherwise the database is loaded (the generated `loadDB`) and registered iff that succeeded. -/
theorem GEN_storage_register_eq (cur : Option Db) (o : DbOracle) (filename : String) :
    ((GenStorage.registerBackingDB cur o filename).1, (GenStorage.registerBackingDB cur o filename).2.toOption.isSome)
      = registerSpec cur (GenStorage.loadDB o filename) := by
  unfold GenStorage.registerBackingDB registerSpec
  cases cur with
  | some d => simp
  | none =>
    simp only [ne_eq, not_true_eq_false, if_false]
    cases GenStorage.loadDB o filename <;> simp

example : (GenStorage.registerBackingDB none ⟨false, false⟩ "l.db").1 = some ⟨"sqlite3", "file:l.db", [GenStorage.schema]⟩ := by rfl
example : (GenStorage.registerBackingDB (some ⟨"x", "y", []⟩) ⟨false, false⟩ "l.db").1 = some ⟨"x", "y", []⟩ := by rfl
example : (GenStorage.registerBackingDB none ⟨false, true⟩ "l.db") = (none, .error (.new "failed to open lease database %s: %w")) := by rfl

/-- for every hardware address `m` (any length, bytes), the text the GENERATED `saveIPAddress`
binds to the column `mac`, passed through the column's affinity, is parsed back to `m` by the GENERATED
`parseHWAddr`, and the GENERATED loader files the row under `macString m` — the key `Handler4` looks up. -/
theorem GEN_storage_key_roundtrip (m : List Nat) (hb : ∀ b ∈ m, b < 256) (rec : GRecord) :
    ∃ t, (GenStorage.saveStmt m rec).bind.lookup "mac" = some (.text t) ∧
      GenStorage.parseHWAddr (sqliteAffinity t) = .ok m ∧
      ∀ (parseIP : String → NetIP) (recs : RecMap) (ipText : String) (a : BitVec 32) (e : Int) (h : String),
        parseIP ipText = .v4 a →
        GenStorage.loadRecordsBody parseIP recs ⟨sqliteAffinity t, ipText, e, h, false⟩
          = .ok (mapStore recs (macString m) ⟨.v4 a, e, h⟩) := by
  have hp : GenStorage.parseHWAddr (sqliteAffinity (macString m)) = .ok m :=
    Except.toOption_eq_some_iff.1 ((GEN_storage_parseHWAddr_eq _).trans (C03_key_roundtrip m hb))
  refine ⟨macString m, rfl, hp, ?_⟩
  intro parseIP recs ipText a e h hip
  unfold GenStorage.loadRecordsBody
  simp [hp, hip, NetIP.to4]

example : (GenStorage.saveStmt [7] ⟨.v4 5#32, 1, "h"⟩).bind.lookup "mac" = some (.text "07") := by decide +kernel
example : GenStorage.parseHWAddr (sqliteAffinity "07") = .ok [7] := by decide +kernel
example : GenStorage.parseHWAddr (sqliteAffinity "0a:1b") = .ok [10, 27] := by decide +kernel
example : GenStorage.loadRecordsBody (fun _ => .v4 5#32) [] ⟨sqliteAffinity "07", "0.0.0.5", 1, "h", false⟩
    = .ok [("07", ⟨.v4 5#32, 1, "h"⟩)] := by decide +kernel

end CoreDhcp
