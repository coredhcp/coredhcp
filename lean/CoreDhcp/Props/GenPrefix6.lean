/-
GEN (prefix plugin, DHCPv6 prefix delegation) — the definitions regenerated from the Go source on every run
(Generated/Prefix6.lean, written by `harness gen -unit prefix6` from the go/ast of plugins/prefix/plugin.go:
`(*Handler).Handle` with its loops, `samePrefix`, `addPrefix`, `recordKey`, `leaseDuration`, the argument
checks of `setupPrefix`) are equal to the hand-written model (Model/Prefix.lean) that C08 / C09 are about.

The generated side keeps what the code does step by step: nested `for … range` loops as structural recursion
(`forRange`) over the hints and the leases, each on the lists as the iterations before it left them, the
`satisfied` / `givenOut` bits travelling with the elements, the dereferences of `hint.Prefix` (a nil one is a
panic = `none`), the element writes `knownLeases[i].Expire = …` reaching the map through the shared array
(`aliasSync`), the store `h.Records[key] = knownLeases` under `allocatedNew`, the IAPrefix options with both
lifetimes, the status option with its number.  The model says the same with map / filter / fold over the
lists the loops started from and one conditional `put`.

Loops 1 and 2 are compared on every state.  Loop 3, the body of the loop over the IA_PD options and `Handle` are
compared at the choices first fit makes (what the real allocator does, unit alloc6): `X_model` says what the model
computes there, `X_gen` (for loop 3: `Gen9.loop3Outer`) that the generated code computes the same, `X_eq` puts the two
together.  The helpers of this file live in `Gen9`, after the translator source gen9.go.

No domain hypothesis is needed: the equalities hold for every state, hint list (also outside `IAPDReq.wf`:
both sides treat a prefix length symbolically) and instant.  What the translation fixes (the vocabulary) is
listed in the header of gen9.go.
-/
import CoreDhcp.Generated.Prefix6
import CoreDhcp.Proofs.Prefix
namespace CoreDhcp
open GenPD

/-- the `net.IPNet` a hint points to once the handler has normalised it -/
def Gen9.hnet : HintP → GNet
  | .empty => ⟨none, none⟩
  | .pfx ip _ len => ⟨some ip, some len⟩
  | .nomask ip _ => ⟨some ip, none⟩

/-- the IAPrefix option `addPrefix` builds from a lease -/
def Gen9.ropt (now : Int) (l : Lease) : ROpt := .iaprefix (l.expire - now) (l.expire - now) l.pfx

/-- the hints as the generated loops hold them: a pointer to the normalised `net.IPNet`, and the `satisfied` bit -/
def Gen9.ghs (hs : List (HintP × Bool)) : List (Option GNet × Bool) :=
  hs.map (fun q => (some (Gen9.hnet q.1), q.2))

theorem Gen9.ghs_cons (q : HintP × Bool) (hs : List (HintP × Bool)) :
    Gen9.ghs (q :: hs) = (some (Gen9.hnet q.1), q.2) :: Gen9.ghs hs := rfl

theorem Gen9.same_eq (h : HintP) (l : Lease) :
    samePrefix (some (Gen9.hnet h)) (some (blockNet l.pfx)) = h.same l := by
  -- the code compares addresses and masks that may be nil, the model the address and the length of a `pfx` hint only
  cases h with
  | empty => rfl
  | pfx ip v4 len => simp only [samePrefix, Gen9.hnet, blockNet, HintP.same, ipEqual, maskEqual, Option.some_beq_some]
  | nomask ip v4 => exact Bool.and_false _

theorem Gen9.extend_eq (l : Lease) (now : Int) :
    (if decide (l.expire < now + leaseDuration) then { l with expire := now + leaseDuration } else l)
      = l.extend now := by
  unfold Lease.extend
  simp only [decide_eq_true_eq]
  rfl

theorem Gen9.forRange_nil {σ ε : Type} (body : σ → ε → Option (σ × ε)) (s : σ) :
    forRange body s [] = some (s, []) := rfl

theorem Gen9.forRange_cons {σ ε : Type} (body : σ → ε → Option (σ × ε)) (s : σ) (e : ε) (rest : List ε) :
    forRange body s (e :: rest) =
      match body s e with
      | none => none
      | some r =>
        match forRange body r.1 rest with
        | none => none
        | some q => some (q.1, r.2 :: q.2) := rfl

/-- the inner loops of loops 1 and 2: the leases selected by `C` are extended, marked and added to the reply -/
theorem Gen9.forRange_give (now : Int) (C : Lease × Bool → Bool)
    (body : Bool × List ROpt → Lease × Bool → Option ((Bool × List ROpt) × (Lease × Bool)))
    (hb : ∀ sat opts p, body (sat, opts) p =
      some (if C p then ((true, opts ++ [Gen9.ropt now (p.1.extend now)]), (p.1.extend now, true))
            else ((sat, opts), p))) :
    ∀ (ls : List (Lease × Bool)) (sat : Bool) (opts : List ROpt),
      forRange body (sat, opts) ls =
        some ((sat || ls.any C, opts ++ (ls.filter C).map (fun p => Gen9.ropt now (p.1.extend now))),
              ls.map (fun p => if C p then (p.1.extend now, true) else p)) := by
  intro ls
  induction ls with
  | nil => intro sat opts; simp [Gen9.forRange_nil]
  | cons p rest ih =>
    intro sat opts
    rw [Gen9.forRange_cons, hb]
    cases hs : C p
    · simp only [Bool.false_eq_true, ↓reduceIte, ih, List.any_cons, hs, Bool.false_or, not_false_eq_true,
        List.filter_cons_of_neg, List.map_cons]
    · simp only [↓reduceIte, ih, Bool.true_or, List.append_assoc, List.cons_append, List.nil_append, List.any_cons,
        hs, Bool.or_true, List.filter_cons_of_pos, List.map_cons]

theorem Gen9.loop1InnerBody_eq (now : Int) (h : HintP) (sat : Bool) (opts : List ROpt) (l : Lease) (g : Bool) :
    loop1InnerBody now (some (Gen9.hnet h)) (sat, opts) (l, g) =
      some (if h.same l then ((true, opts ++ [Gen9.ropt now (l.extend now)]), (l.extend now, true))
            else ((sat, opts), (l, g))) := by
  unfold loop1InnerBody
  simp only [Gen9.same_eq, Gen9.extend_eq, Gen9.ropt]
  cases h.same l <;> rfl

theorem Gen9.loop1Body_eq (now : Int) (ls : List (Lease × Bool)) (opts : List ROpt) (h : HintP) (b : Bool) :
    loop1Body now (ls, opts) (some (Gen9.hnet h), b) =
      some ((ls.map (fun p => if h.same p.1 then (p.1.extend now, true) else p),
             opts ++ (ls.filter (fun p => h.same p.1)).map (fun p => Gen9.ropt now (p.1.extend now))),
            (some (Gen9.hnet h), b || ls.any (fun p => h.same p.1))) := by
  unfold loop1Body
  dsimp only
  rw [Gen9.forRange_give now (fun p => h.same p.1) _
    (fun sat opts p => Gen9.loop1InnerBody_eq now h sat opts p.1 p.2)]

/-- what one hint of loop 1 does to one lease -/
def Gen9.mark1 (now : Int) (h : HintP) (p : Lease × Bool) : Lease × Bool :=
  if h.same p.1 then (p.1.extend now, true) else p

theorem Gen9.mark1_same (now : Int) (h h' : HintP) (p : Lease × Bool) :
    h'.same (Gen9.mark1 now h p).1 = h'.same p.1 := by
  unfold Gen9.mark1
  split <;> simp [PrefixProof.same_extend]

theorem Gen9.mark1_extend (now : Int) (h : HintP) (p : Lease × Bool) :
    (Gen9.mark1 now h p).1.extend now = p.1.extend now := by
  unfold Gen9.mark1
  split <;> simp [PrefixProof.extend_extend]

/-- a lease marked by an earlier hint and then by a later one is a lease marked by either -/
theorem Gen9.mark1_or (now : Int) (h : HintP) (p : Lease × Bool) (b : Bool) :
    (if b then (p.1.extend now, true) else Gen9.mark1 now h p) =
      if h.same p.1 || b then (p.1.extend now, true) else p := by
  unfold Gen9.mark1
  cases h.same p.1 <;> cases b <;> rfl

theorem Gen9.loop1Outer (now : Int) :
    ∀ (hs : List (HintP × Bool)) (ls : List (Lease × Bool)) (opts : List ROpt),
      forRange (loop1Body now) (ls, opts) (Gen9.ghs hs) =
        some ((ls.map (fun p => if hs.any (fun q => q.1.same p.1) then (p.1.extend now, true) else p),
               opts ++ hs.flatMap (fun q =>
                 (ls.filter (fun p => q.1.same p.1)).map (fun p => Gen9.ropt now (p.1.extend now)))),
              Gen9.ghs (hs.map (fun q => (q.1, q.2 || ls.any (fun p => q.1.same p.1))))) := by
  intro hs
  induction hs with
  | nil => intro ls opts; simp [Gen9.ghs, Gen9.forRange_nil]
  | cons q rest ih =>
    intro ls opts
    rw [Gen9.ghs_cons, Gen9.forRange_cons, Gen9.loop1Body_eq]
    dsimp only
    rw [show (ls.map (fun p => if q.1.same p.1 then (p.1.extend now, true) else p)) = ls.map (Gen9.mark1 now q.1) from rfl]
    rw [ih]
    simp only [List.map_map, List.filter_map, List.any_map, Function.comp_def, Gen9.mark1_same, Gen9.mark1_extend,
      List.map_cons, Gen9.ghs_cons, List.flatMap_cons, List.append_assoc, List.any_cons]
    congr 3
    apply List.map_congr_left
    intro p _
    exact Gen9.mark1_or now q.1 p _

/-- the generated loop 1 works on the lists as earlier hints left them, the model's `loop1` on the lists
the loop started from; they agree. -/
theorem GEN_pd_loop1_eq (now : Int) (st : LoopSt) :
    forRange (loop1Body now) (st.ls, st.reply.map (Gen9.ropt now)) (Gen9.ghs st.hs) =
      some (((loop1 now st).ls, (loop1 now st).reply.map (Gen9.ropt now)), Gen9.ghs (loop1 now st).hs) := by
  rw [Gen9.loop1Outer]
  unfold loop1
  simp only [List.any_map, List.flatMap_map, List.map_append, List.map_flatMap, List.map_map, Function.comp_def]

theorem Gen9.maskOnes_hnet (h : HintP) : maskOnes (Gen9.hnet h).mask = h.wantLen := by
  cases h <;> rfl

theorem Gen9.maskOnes_block (b : Block) : maskOnes (blockNet b).mask = b.len := rfl

theorem Gen9.unspec_hnet (h : HintP) :
    (ipLen (Gen9.hnet h).ip != 0 && !ipEqual (Gen9.hnet h).ip (some ⟨0#64, 0#64⟩)) = !h.unspecified := by
  cases h <;> simp [Gen9.hnet, ipLen, ipEqual, HintP.unspecified]

theorem Gen9.loop2InnerBody_eq (now : Int) (h : HintP) (sat : Bool) (opts : List ROpt) (l : Lease) (g : Bool) :
    loop2InnerBody now (Gen9.hnet h) (sat, opts) (l, g) =
      some (if loop2Eligible h (l, g) then ((true, opts ++ [Gen9.ropt now (l.extend now)]), (l.extend now, true))
            else ((sat, opts), (l, g))) := by
  unfold loop2InnerBody loop2Eligible
  simp only [Gen9.maskOnes_hnet, Gen9.extend_eq, Gen9.maskOnes_block, bne]
  -- the code tests `givenOut`, then the wanted length against 0, then against the lease's; the model one Boolean formula
  cases g
  · cases h.wantLen == 0
    · cases h.wantLen == l.pfx.len
      · rfl
      · rfl
    · rfl
  · rfl

/-- one hint of the generated loop 2 does what the model's `loop2Step` does; `x` is the hint as both leave it -/
theorem Gen9.loop2Body_eq (now : Int) (ls : List (Lease × Bool)) (reply : List Lease) (done : List (HintP × Bool))
    (q : HintP × Bool) :
    ∃ x, loop2Body now (ls, reply.map (Gen9.ropt now)) (some (Gen9.hnet q.1), q.2) =
        some (((loop2Step now (ls, reply, done) q).1, (loop2Step now (ls, reply, done) q).2.1.map (Gen9.ropt now)),
          (some (Gen9.hnet x.1), x.2)) ∧
      (loop2Step now (ls, reply, done) q).2.2 = done ++ [x] := by
  obtain ⟨h, b⟩ := q
  unfold loop2Body loop2Step
  simp only [Gen9.unspec_hnet]
  -- the code tests `satisfied` and "specified" one after the other, the model their disjunction
  cases b
  · cases h.unspecified
    · exact ⟨_, rfl, rfl⟩
    · refine ⟨(h, ls.any (loop2Eligible h)), ?_, rfl⟩
      simp only [Bool.false_eq_true, Bool.not_true, Bool.or_false, if_false]
      rw [Gen9.forRange_give now (loop2Eligible h) _
        (fun sat opts p => Gen9.loop2InnerBody_eq now h sat opts p.1 p.2)]
      simp only [Bool.false_or, List.map_append, List.map_map, Function.comp_def]
  · exact ⟨_, rfl, rfl⟩

/-- the induction for `GEN_pd_loop2_eq`, over the accumulator of the model's fold: the generated loop returns only the
hints of this call (`out`), the fold appends them to those it has behind it -/
theorem Gen9.loop2Outer (now : Int) :
    ∀ (hs : List (HintP × Bool)) (acc : List (Lease × Bool) × List Lease × List (HintP × Bool)),
      ∃ out, forRange (loop2Body now) (acc.1, acc.2.1.map (Gen9.ropt now)) (Gen9.ghs hs) =
          some (((hs.foldl (loop2Step now) acc).1, (hs.foldl (loop2Step now) acc).2.1.map (Gen9.ropt now)), out) ∧
        Gen9.ghs acc.2.2 ++ out = Gen9.ghs (hs.foldl (loop2Step now) acc).2.2 := by
  intro hs
  induction hs with
  | nil => intro acc; exact ⟨[], rfl, List.append_nil _⟩
  | cons q rest ih =>
    intro ⟨ls, reply, done⟩
    obtain ⟨x, e, hx⟩ := Gen9.loop2Body_eq now ls reply done q
    obtain ⟨out, e2, ho⟩ := ih (loop2Step now (ls, reply, done) q)
    rw [Gen9.ghs_cons, Gen9.forRange_cons, e, List.foldl_cons]
    dsimp only
    rw [e2]
    refine ⟨_, rfl, ?_⟩
    rw [← ho, hx]
    simp only [Gen9.ghs, List.map_append, List.map_cons, List.map_nil, List.append_assoc, List.cons_append,
      List.nil_append]

/-- the generated loop 2 is the model's `loop2` (a fold of `loop2Step` over the hints). -/
theorem GEN_pd_loop2_eq (now : Int) (st : LoopSt) :
    forRange (loop2Body now) (st.ls, st.reply.map (Gen9.ropt now)) (Gen9.ghs st.hs) =
      some (((loop2 now st).ls, (loop2 now st).reply.map (Gen9.ropt now)), Gen9.ghs (loop2 now st).hs) := by
  obtain ⟨out, e, ho⟩ := Gen9.loop2Outer now st.hs (st.ls, st.reply, [])
  -- `Gen9.ghs [] ++ out` in `ho` reduces to `out`
  have ho' : out = _ := ho
  rw [e, ho']
  rfl

/-- first fit is always an admissible choice: the `getD` default of `allocFF` is never taken -/
theorem Gen9.allocFF_eq (a : A6) (h : Hint6) : a.allocate h a.firstFit = some (allocFF a h) :=
  eq_some_getD_of_isSome (A6.firstFit_admissible a h) _

theorem Gen9.netHint_hnet (h : HintP) : netHint (Gen9.hnet h) = h.toHint6 := by
  cases h <;> rfl

/-- one hint of loop 3 on the model's side when the allocator's choice is first fit: the new state and the
choices consumed (one per `Allocate` call: the first fit of the allocator as it is at that moment) -/
def Gen9.step3 (now : Int) (st : LoopSt) (q : HintP × Bool) : LoopSt × List (Option Nat) :=
  if q.2 || (q.1 == .empty && !st.reply.isEmpty) then (st, [])
  else
    match allocFF st.alloc q.1.toHint6 with
    | (a', .error _) => ({ st with alloc := a' }, [st.alloc.firstFit])
    | (a', .ok b) =>
      ({ st with alloc := a', ls := st.ls ++ [((⟨b, now + leaseDur⟩ : Lease), true)],
                 reply := st.reply ++ [⟨b, now + leaseDur⟩], fresh := true }, [st.alloc.firstFit])

/-- `Gen9.step3` over the hints: the state loop 3 ends in and the choices it consumed, in order -/
def Gen9.run3 (now : Int) : LoopSt → List (HintP × Bool) → LoopSt × List (Option Nat)
  | st, [] => (st, [])
  | st, q :: rest =>
    ((Gen9.run3 now (Gen9.step3 now st q).1 rest).1,
      (Gen9.step3 now st q).2 ++ (Gen9.run3 now (Gen9.step3 now st q).1 rest).2)

theorem Gen9.step3_model (now : Int) (st : LoopSt) (q : HintP × Bool) (cs : List (Option Nat)) :
    loop3Step now (some (st, (Gen9.step3 now st q).2 ++ cs)) q = some ((Gen9.step3 now st q).1, cs) := by
  unfold loop3Step Gen9.step3
  obtain ⟨h, b⟩ := q
  dsimp only
  -- the model tests `satisfied` and the D15 condition one after the other, `step3` their disjunction; the model asks the
  -- allocator with the choice it is handed, `step3` with first fit
  cases b
  · cases (h == HintP.empty && !st.reply.isEmpty)
    · simp only [Bool.false_or, Bool.false_eq_true, if_false]
      cases hr : allocFF st.alloc h.toHint6 with
      | mk a' res =>
        cases res with
        | error e => simp only [List.cons_append, List.nil_append, Gen9.allocFF_eq, hr]
        | ok blk => simp only [List.cons_append, List.nil_append, Gen9.allocFF_eq, hr]
    · rfl
  · rfl

theorem Gen9.run3_model (now : Int) :
    ∀ (hs : List (HintP × Bool)) (st : LoopSt) (cs : List (Option Nat)),
      hs.foldl (loop3Step now) (some (st, (Gen9.run3 now st hs).2 ++ cs)) = some ((Gen9.run3 now st hs).1, cs) := by
  intro hs
  induction hs with
  | nil => intro st cs; simp [Gen9.run3]
  | cons q rest ih =>
    intro st cs
    rw [List.foldl_cons, Gen9.run3]
    simp only [List.append_assoc]
    rw [Gen9.step3_model, ih]

/-- what the generated loop 3 threads, read off a model state: the handler state (allocator + records), the
leases without their `givenOut` bits, the options added so far, `allocatedNew` -/
def Gen9.st3 (now : Int) (recs : List (ClientKey × List Lease)) (st : LoopSt) :
    List ROpt × PState × List Lease × Bool :=
  (st.reply.map (Gen9.ropt now), ⟨st.alloc, recs⟩, st.ls.map (·.1), st.fresh)

theorem Gen9.loop3Body_eq (now : Int) (recs : List (ClientKey × List Lease)) (st : LoopSt) (q : HintP × Bool) :
    loop3Body now (Gen9.st3 now recs st) (some (Gen9.hnet q.1), q.2) =
      some (Gen9.st3 now recs (Gen9.step3 now st q).1, (some (Gen9.hnet q.1), q.2)) := by
  unfold loop3Body Gen9.step3 Gen9.st3
  obtain ⟨h, b⟩ := q
  cases b
  · -- the code reads "answered already" off the options added so far and "empty" off the normalised `net.IPNet`
    have hc : (ipLen (Gen9.hnet h).ip == 0 && (Gen9.hnet h).mask.isNone &&
        decide ((st.reply.map (Gen9.ropt now)).length > 0)) = (h == HintP.empty && !st.reply.isEmpty) := by
      cases h <;> cases st.reply <;> rfl
    simp only [hc, Bool.false_or, Bool.false_eq_true, if_false, Option.isNone_some, Gen9.netHint_hnet]
    cases (h == HintP.empty && !st.reply.isEmpty)
    · simp only [Bool.false_eq_true, if_false]
      cases hr : allocFF st.alloc h.toHint6 with
      | mk a' res =>
        cases res with
        | error e => rfl
        | ok blk => simp only [List.map_append]; rfl
    · rfl
  · rfl

theorem Gen9.loop3Outer (now : Int) (recs : List (ClientKey × List Lease)) :
    ∀ (hs : List (HintP × Bool)) (st : LoopSt),
      forRange (loop3Body now) (Gen9.st3 now recs st) (Gen9.ghs hs) =
        some (Gen9.st3 now recs (Gen9.run3 now st hs).1, Gen9.ghs hs) := by
  intro hs
  induction hs with
  | nil => intro st; simp [Gen9.ghs, Gen9.forRange_nil, Gen9.run3]
  | cons q rest ih =>
    intro st
    rw [Gen9.ghs_cons, Gen9.forRange_cons, Gen9.loop3Body_eq]
    dsimp only
    rw [ih, Gen9.run3]

/-- the choices first fit makes in loop 3 started from `st` -/
def Gen9.ff3 (now : Int) (st : LoopSt) : List (Option Nat) := (Gen9.run3 now st st.hs).2

/-- the model's side: driven by the first-fit choices the model's `loop3` ends in
`(run3 …).1` and hands back the choices it did not need. -/
theorem GEN_pd_loop3_model (now : Int) (st : LoopSt) (cs : List (Option Nat)) :
    loop3 now st (Gen9.ff3 now st ++ cs) = some ((Gen9.run3 now st st.hs).1, cs) :=
  Gen9.run3_model now st.hs st cs

/-- the generated loop 3 computes the projection `st3` of the state the model's `loop3` ends in. -/
theorem GEN_pd_loop3_eq (now : Int) (recs : List (ClientKey × List Lease)) (st : LoopSt) (cs : List (Option Nat)) :
    (loop3 now st (Gen9.ff3 now st ++ cs)).map (fun r => ((Gen9.st3 now recs r.1, Gen9.ghs r.1.hs), r.2)) =
      (forRange (loop3Body now) (Gen9.st3 now recs st) (Gen9.ghs st.hs)).map (fun g => (g, cs)) := by
  have hm := GEN_pd_loop3_model now st cs
  rw [hm, Gen9.loop3Outer]
  simp only [Option.map_some, (PrefixProof.loop3_keeps hm).1]

theorem Gen9.normalizeBody_eq (now : Int) (h : HintP) :
    normalizeBody now () (parsedPrefix h) = some ((), some (Gen9.hnet h)) := by
  cases h <;> rfl

theorem Gen9.normalize_parsed (now : Int) :
    ∀ (l : List HintP), forRange (normalizeBody now) () (l.map parsedPrefix) = some ((), l.map (fun h => some (Gen9.hnet h))) := by
  intro l
  induction l with
  | nil => rfl
  | cons h rest ih =>
    rw [List.map_cons, Gen9.forRange_cons, Gen9.normalizeBody_eq]
    dsimp only
    rw [ih]
    rfl

/-- the hints of an IA_PD as the handler has them after its first two steps (a synthetic `&net.IPNet{}` for an
IA_PD without IAPrefix option, `&net.IPNet{}` in place of every nil `Prefix`): the model's `hintsOf` -/
theorem Gen9.normalize_eq (now : Int) (q : IAPDReq) :
    forRange (normalizeBody now) ()
        (if (q.hints.map parsedPrefix).length == 0 then [some (GNet.mk none none)] else q.hints.map parsedPrefix) =
      some ((), (PrefixProof.hintsOf q).map (fun h => some (Gen9.hnet h))) := by
  unfold PrefixProof.hintsOf
  -- the code tests the length of the parsed options, the model whether the hints are empty
  cases q.hints with
  | nil => rfl
  | cons h rest => exact Gen9.normalize_parsed now (h :: rest)

theorem Gen9.isEmpty_of_length {α β : Type} {a : List α} {b : List β} (h : a.length = b.length) :
    a.isEmpty = b.isEmpty := by
  rw [Bool.eq_iff_iff, List.isEmpty_iff_length_eq_zero, List.isEmpty_iff_length_eq_zero, h]

/-- the state loop 3 ends in for one IA_PD, and the choices consumed, when the allocator's choices are first fit -/
def Gen9.endIAPD (s : PState) (c : ClientKey) (q : IAPDReq) (now : Int) : LoopSt × List (Option Nat) :=
  Gen9.run3 now (loop2 now (loop1 now (PrefixProof.st0 s c q))) (loop2 now (loop1 now (PrefixProof.st0 s c q))).hs

def Gen9.ffIAPD (s : PState) (c : ClientKey) (q : IAPDReq) (now : Int) : List (Option Nat) :=
  (Gen9.endIAPD s c q now).2

/-- the model's `handleIAPD` at those choices: the new state and the reply -/
def Gen9.outIAPD (s : PState) (c : ClientKey) (q : IAPDReq) (now : Int) : PState × IAPDResp :=
  (⟨(Gen9.endIAPD s c q now).1.alloc,
      if (Gen9.endIAPD s c q now).1.fresh || !(s.leasesOf c).isEmpty
      then s.put c ((Gen9.endIAPD s c q now).1.ls.map (·.1)) else s.recs⟩,
    ⟨q.iaid, (Gen9.endIAPD s c q now).1.reply.map (fun l => (l.pfx, l.expire - now))⟩)

/-- the IA_PD option of the reply as the code builds it, from the model's: the IAPrefix options carry the
lifetime twice (preferred = valid); a reply without prefix carries the status code NoPrefixAvail (6) -/
def Gen9.giapd (r : IAPDResp) : GIAPD :=
  ⟨r.iaid, if r.pfxs.isEmpty then [ROpt.status 6] else r.pfxs.map (fun x => ROpt.iaprefix x.2 x.2 x.1)⟩

/-- the NoPrefixAvail rule: the IA_PD option `Handle` builds is the one `giapd` reads off the model's reply -/
theorem Gen9.giapd_eq (now : Int) (iaid : Nat) (reply : List Lease) :
    GIAPD.mk iaid (if (reply.map (Gen9.ropt now)).length == 0 then reply.map (Gen9.ropt now) ++ [ROpt.status 6]
      else reply.map (Gen9.ropt now)) =
      Gen9.giapd ⟨iaid, reply.map (fun l => (l.pfx, l.expire - now))⟩ := by
  cases reply with
  | nil => rfl
  | cons l rest => simp [Gen9.giapd, Gen9.ropt, List.map_map, Function.comp_def]

/-- the write-throughs after loops 1 and 2 (leases `l1`, `l2`, empty exactly when the client was unknown) and the
store under `allocatedNew` amount to the model's one conditional `put` -/
theorem Gen9.store_eq (s : PState) (c : ClientKey) (l1 l2 : List Lease) (R : LoopSt)
    (h1 : l1.isEmpty = (s.leasesOf c).isEmpty) (h2 : l2.isEmpty = (s.leasesOf c).isEmpty)
    (hnf : R.fresh = false → R.ls.map (·.1) = l2) :
    (if R.fresh = true then
        ({ alloc := R.alloc, recs := PState.put ⟨R.alloc, aliasSync ⟨s.alloc, aliasSync s c l1⟩ c l2⟩ c (R.ls.map (·.1)) } : PState)
      else { alloc := R.alloc, recs := aliasSync ⟨s.alloc, aliasSync s c l1⟩ c l2 }) =
      { alloc := R.alloc, recs := if R.fresh || !(s.leasesOf c).isEmpty then s.put c (R.ls.map (·.1)) else s.recs } := by
  unfold aliasSync
  rw [h1, h2]
  cases hf : R.fresh
  · cases (s.leasesOf c).isEmpty
    · -- a known client, nothing allocated: the second write-through absorbs the first
      simp only [Bool.false_eq_true, if_false]
      rw [hnf hf, PrefixProof.put_put]
      rfl
    · -- an unknown client: no write-through, and nothing to store ..
      rfl
  · cases (s.leasesOf c).isEmpty
    · -- a known client, something allocated: the store absorbs both
      simp only [Bool.false_eq_true, if_false, if_true]
      rw [PrefixProof.put_put, PrefixProof.put_put]
      rfl
    · -- .. or the store alone
      rfl

theorem GEN_pd_handleIAPD_model (s : PState) (c : ClientKey) (q : IAPDReq) (now : Int) (cs : List (Option Nat)) :
    s.handleIAPD c q now (Gen9.ffIAPD s c q now ++ cs) =
      some ((Gen9.outIAPD s c q now).1, (Gen9.outIAPD s c q now).2, cs) := by
  rw [PrefixProof.handleIAPD_eq, show Gen9.ffIAPD s c q now = Gen9.ff3 now _ from rfl, GEN_pd_loop3_model]
  unfold Gen9.outIAPD Gen9.endIAPD
  rfl

theorem GEN_pd_handleIAPD_gen (s : PState) (c : ClientKey) (q : IAPDReq) (now : Int) (added : List GIAPD) :
    iapdBody now c (s, added) q =
      some (((Gen9.outIAPD s c q now).1, added ++ [Gen9.giapd (Gen9.outIAPD s c q now).2]), q) := by
  unfold iapdBody
  dsimp only
  rw [Gen9.normalize_eq]
  dsimp only
  have e1 : ((PrefixProof.hintsOf q).map (fun h => some (Gen9.hnet h))).map (fun x => (x, false)) =
      Gen9.ghs (PrefixProof.st0 s c q).hs := by
    simp only [List.map_map, Function.comp_def, Gen9.ghs, PrefixProof.st0]
  rw [e1]
  -- the goal shows the fields of `st0` (here) and of `st3` (at loop 3) spelled out; the lemmas, stated on `st0 …` and `st3 …`,
  -- are restated in that form
  have h1 : forRange (loop1Body now) ((s.leasesOf c).map (fun x => (x, false)), [])
      (Gen9.ghs (PrefixProof.st0 s c q).hs) = _ := GEN_pd_loop1_eq now (PrefixProof.st0 s c q)
  rw [h1]
  dsimp only
  rw [GEN_pd_loop2_eq now (loop1 now (PrefixProof.st0 s c q))]
  dsimp only
  rw [show forRange (loop3Body now) (_, ⟨s.alloc, _⟩, _, false) _ = _ from
    Gen9.loop3Outer now _ _ (loop2 now (loop1 now (PrefixProof.st0 s c q)))]
  dsimp only [Gen9.st3]
  -- loops 1 and 2 keep the number of leases, so the write-throughs happen exactly for a known client
  have hl1 : ((loop1 now (PrefixProof.st0 s c q)).ls.map (·.1)).isEmpty = (s.leasesOf c).isEmpty := by
    apply Gen9.isEmpty_of_length
    rw [List.length_map, PrefixProof.loop1_ls_length]
    exact List.length_map _
  have hl2 : ((loop2 now (loop1 now (PrefixProof.st0 s c q))).ls.map (·.1)).isEmpty = (s.leasesOf c).isEmpty := by
    apply Gen9.isEmpty_of_length
    rw [List.length_map, PrefixProof.loop2_ls_length, PrefixProof.loop1_ls_length]
    exact List.length_map _
  -- loop 3 without an allocation keeps the leases: a fact of the model's loop, read off at the first-fit choices
  have hm := GEN_pd_loop3_model now (loop2 now (loop1 now (PrefixProof.st0 s c q))) []
  have hnf := fun hf => congrArg (List.map (·.1)) ((PrefixProof.loop3_keeps hm).2.2 hf)
  rw [Gen9.giapd_eq, Gen9.store_eq s c _ _ _ hl1 hl2 hnf]
  unfold Gen9.outIAPD Gen9.endIAPD
  rfl

/-- the body of the loop over the IA_PD options leaves the state the model's `handleIAPD` leaves and
adds to the response the IA_PD option the model's reply stands for. -/
theorem GEN_pd_handleIAPD_eq (s : PState) (c : ClientKey) (q : IAPDReq) (now : Int) (added : List GIAPD)
    (cs : List (Option Nat)) :
    (s.handleIAPD c q now (Gen9.ffIAPD s c q now ++ cs)).map
        (fun r => (((r.1, added ++ [Gen9.giapd r.2.1]), q), r.2.2)) =
      (iapdBody now c (s, added) q).map (fun g => (g, cs)) := by
  rw [GEN_pd_handleIAPD_model, GEN_pd_handleIAPD_gen]
  rfl

/-- the model's loop over the IA_PDs at first fit: the final state, the replies, the choices consumed -/
def Gen9.runGo (now : Int) (c : ClientKey) :
    PState → List IAPDResp → List IAPDReq → (PState × List IAPDResp) × List (Option Nat)
  | s, acc, [] => ((s, acc), [])
  | s, acc, i :: rest =>
    ((Gen9.runGo now c (Gen9.outIAPD s c i now).1 (acc ++ [(Gen9.outIAPD s c i now).2]) rest).1,
      Gen9.ffIAPD s c i now ++
        (Gen9.runGo now c (Gen9.outIAPD s c i now).1 (acc ++ [(Gen9.outIAPD s c i now).2]) rest).2)

theorem Gen9.runGo_model (now : Int) (c : ClientKey) :
    ∀ (iapds : List IAPDReq) (s : PState) (acc : List IAPDResp) (cs : List (Option Nat)),
      PState.handleMsg.go now c s acc ((Gen9.runGo now c s acc iapds).2 ++ cs) iapds =
        some ((Gen9.runGo now c s acc iapds).1.1, some (Gen9.runGo now c s acc iapds).1.2, cs) := by
  intro iapds
  induction iapds with
  | nil => intro s acc cs; rfl
  | cons i rest ih =>
    intro s acc cs
    rw [PrefixProof.go_cons, Gen9.runGo]
    simp only [List.append_assoc]
    rw [GEN_pd_handleIAPD_model]
    dsimp only
    rw [ih]

theorem Gen9.runGo_gen (now : Int) (c : ClientKey) :
    ∀ (iapds : List IAPDReq) (s : PState) (acc : List IAPDResp),
      forRange (iapdBody now c) (s, acc.map Gen9.giapd) iapds =
        some (((Gen9.runGo now c s acc iapds).1.1, (Gen9.runGo now c s acc iapds).1.2.map Gen9.giapd), iapds) := by
  intro iapds
  induction iapds with
  | nil => intro s acc; rfl
  | cons i rest ih =>
    intro s acc
    rw [Gen9.forRange_cons, GEN_pd_handleIAPD_gen]
    dsimp only
    rw [show acc.map Gen9.giapd ++ [Gen9.giapd (Gen9.outIAPD s c i now).2] =
      (acc ++ [(Gen9.outIAPD s c i now).2]).map Gen9.giapd by simp]
    rw [ih, Gen9.runGo]

def Gen9.ffMsg (s : PState) (client : Option ClientKey) (iapds : List IAPDReq) (now : Int) : List (Option Nat) :=
  match client with
  | none => []
  | some c => (Gen9.runGo now c s [] iapds).2

def Gen9.outMsg (s : PState) (client : Option ClientKey) (iapds : List IAPDReq) (now : Int) :
    PState × Option (List IAPDResp) :=
  match client with
  | none => (s, none)
  | some c => ((Gen9.runGo now c s [] iapds).1.1, some (Gen9.runGo now c s [] iapds).1.2)

/-- what `Handle` returns, from the model's reply: nothing sent ↦ `return nil, true`; the IA_PD options ↦
`return resp, false` with these options added to `resp` -/
def Gen9.ret : Option (List IAPDResp) → Ret
  | none => .ret none true
  | some l => .ret (some (l.map Gen9.giapd)) false

theorem GEN_pd_handleMsg_model (s : PState) (client : Option ClientKey) (iapds : List IAPDReq) (now : Int)
    (cs : List (Option Nat)) :
    s.handleMsg client iapds now (Gen9.ffMsg s client iapds now ++ cs) =
      some ((Gen9.outMsg s client iapds now).1, (Gen9.outMsg s client iapds now).2, cs) := by
  cases client with
  | none => rfl
  | some c => exact Gen9.runGo_model now c iapds s [] cs

theorem GEN_pd_handleMsg_gen (s : PState) (client : Option ClientKey) (iapds : List IAPDReq) (now : Int) :
    handle now s ⟨some ⟨client, iapds⟩⟩ =
      some ((Gen9.outMsg s client iapds now).1, Gen9.ret (Gen9.outMsg s client iapds now).2) := by
  cases client with
  | none => rfl
  | some c =>
    unfold handle
    dsimp only
    rw [show ([] : List GIAPD) = ([] : List IAPDResp).map Gen9.giapd from rfl, Gen9.runGo_gen]
    rfl

/-- `Handle` on a request with client id `client` (`none` = absent) and IA_PD options `iapds` leaves the
state the model's `handleMsg` leaves and returns what the model's reply stands for. -/
theorem GEN_pd_handleMsg_eq (s : PState) (client : Option ClientKey) (iapds : List IAPDReq) (now : Int)
    (cs : List (Option Nat)) :
    (s.handleMsg client iapds now (Gen9.ffMsg s client iapds now ++ cs)).map
        (fun r => ((r.1, Gen9.ret r.2.1), r.2.2)) =
      (handle now s ⟨some ⟨client, iapds⟩⟩).map (fun g => (g, cs)) := by
  rw [GEN_pd_handleMsg_model, GEN_pd_handleMsg_gen]
  rfl

/-- a request whose inner message cannot be extracted: `return nil, true`, the state untouched — the model's
`handleMsg` with `client := none` -/
theorem GEN_pd_handle_undecapsulated (s : PState) (now : Int) (iapds : List IAPDReq) (cs : List (Option Nat)) :
    (s.handleMsg none iapds now cs).map (fun r => ((r.1, Gen9.ret r.2.1), r.2.2)) =
      (handle now s ⟨none⟩).map (fun g => (g, cs)) := rfl

/-- the generated handler never panics (no nil dereference, no inadmissible choice) -/
theorem GEN_pd_handle_total (s : PState) (req : ReqV) (now : Int) : (handle now s req).isSome = true := by
  obtain ⟨inner⟩ := req
  cases inner with
  | none => rfl
  | some m =>
    obtain ⟨client, iapds⟩ := m
    rw [GEN_pd_handleMsg_gen]
    rfl

/-- the model's error classes from the error texts of the source: the model does not tell an IPv4 pool from an
unparsable one -/
def Gen9.setupErr : SetupErr → PSetupErr
  | .arity => .arity
  | .cidr => .cidr
  | .notV6 => .cidr
  | .size => .size
  | .alloc => .alloc

/-- the model's `pool` from what `net.ParseCIDR` returned: nothing for an error and for an IPv4 network -/
def Gen9.poolOf : Option CidrV → Option (Addr × Nat)
  | none => none
  | some c => if c.v4 then none else some (c.base, c.len)

/-- the argument checks of `setupPrefix` generated from the source are the model's `PState.setup`
(given at least two arguments; the model starts from the parsed arguments). -/
theorem GEN_pd_setup_eq (nargs : Nat) (cidr : Option CidrV) (size : Option Int) (h : 2 ≤ nargs) :
    (setup nargs cidr size).mapError Gen9.setupErr = PState.setup (Gen9.poolOf cidr) size := by
  unfold setup
  rw [if_neg (by rw [decide_eq_true_eq]; omega)]
  -- the code looks at the parsed network, at `To4`, at the size, one after the other; the model at the pool (nothing for
  -- an IPv4 network) and the size together; the code tests the size with `||`, the model with `∨`
  cases cidr with
  | none => rfl
  | some c =>
    obtain ⟨v4, base, len⟩ := c
    cases v4
    · cases size with
      | none => rfl
      | some z =>
        unfold PState.setup Gen9.poolOf
        simp only [← Bool.decide_or, decide_eq_true_eq, Bool.false_eq_true, if_false]
        split
        · rfl
        · cases A6.new ⟨base, len, z.toNat⟩ with
          | error e => rfl
          | ok a => rfl
    · rfl

/-- fewer than two arguments: the arity error, before anything is parsed -/
theorem GEN_pd_setup_arity (nargs : Nat) (cidr : Option CidrV) (size : Option Int) (h : nargs < 2) :
    setup nargs cidr size = .error .arity := by
  unfold setup
  rw [if_pos (decide_eq_true h)]

end CoreDhcp
