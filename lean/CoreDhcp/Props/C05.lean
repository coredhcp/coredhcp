/-
C05 — Allocations lie in the pool, have the right size, and capacity is exact.
The monitor this theorem is about is the `c05` component of `Mon6.step` / `Mon4.step` (Spec/Alloc.lean).
-/
import CoreDhcp.Proofs.Alloc6
import CoreDhcp.Proofs.Alloc4
namespace CoreDhcp

theorem C05_alloc6 (p : Pool6) (hp : p.WF) (a : A6) (hnew : A6.new p = .ok a)
    (ops : List Op6) (cs : List (Option Nat)) (evs : List Ev6) (z : A6)
    (hdom : ops.all (Op6.inDomain p) = true) (hrun : A6.run a ops cs = some (evs, z)) :
    C05.holds6 p evs = true :=
  (Verdict.all_proj (A6.run_verdicts p hp a hnew ops cs evs z hdom hrun)).2.1

theorem C05_alloc4 (s e : BitVec 32) (a : A4) (hnew : A4.new (some s) (some e) = .ok a)
    (ops : List Op4) (cs : List (Option Nat)) (evs : List Ev4) (z : A4)
    (hrun : A4.run a ops cs = some (evs, z)) :
    C05.holds4 s e evs = true :=
  (Verdict.all_proj (A4.run_verdicts s e a hnew ops cs evs z hrun)).2.1

/-- "no address available" changes nothing -/
theorem C05_noaddr_unchanged6 (a a' : A6) (h : Hint6) (c : Option Nat)
    (hr : a.allocate h c = some (a', .error .noaddr)) : a' = a := by
  rcases A6.allocate_cases a a' h c _ hr with
    ⟨_, _, _, ⟨_, _, h1⟩ | ⟨_, _, h1⟩⟩ |
    ⟨_, ⟨_, _, h1, _⟩ | ⟨_, _, _, _, ⟨_, _, _, h1⟩ | ⟨_, _, h1, _⟩⟩⟩
  · -- hint honoured: the result is a block
    cases h1
  · -- hint path, `toPrefix` fails: the error is not "no address"
    cases h1
  · -- no address available
    exact h1
  · -- chosen bit, `toPrefix` succeeds: the result is a block
    cases h1
  · -- chosen bit, `toPrefix` fails ("BUG"): the bit was cleared again
    exact h1

theorem C05_noaddr_unchanged4 (a a' : A4) (h : Option (BitVec 32)) (c : Option Nat)
    (hr : a.allocate h c = some (a', .noaddr)) : a' = a := by
  rcases A4.allocate_cases a a' h c _ hr with ⟨h1, _⟩ | ⟨n, _, _, _, ⟨h1, _⟩ | ⟨h1, _⟩⟩
  · exact h1
  · cases h1
  · cases h1

/-- the model is never stuck: first fit, the policy of the code, is admissible in every state -/
theorem C05_progress6 (a : A6) (h : Hint6) : (a.allocate h a.firstFit).isSome = true :=
  A6.firstFit_admissible a h

theorem C05_progress4 (a : A4) (h : Option (BitVec 32)) : (a.allocate h a.firstFit).isSome = true :=
  A4.firstFit_admissible a h

end CoreDhcp
