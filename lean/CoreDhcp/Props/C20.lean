/-
C20 — Prefix arithmetic is exact or reports overflow, never wraps.
-/
import CoreDhcp.Proofs.IPCalc
import CoreDhcp.Spec.IPCalc
namespace CoreDhcp

/-- Offset(x, base, p) is the index of the /p block containing x, or overflow when the
index needs more than 64 bits. -/
theorem C20_offset_exact (x base : Addr) (p : Nat) (hp : p ≤ 128)
    (hal : base.val % 2^(128 - p) = 0) (hle : base.val ≤ x.val) :
    offset x base (p : Int) =
      if (x.val - base.val) / 2^(128 - p) < 2^64
      then .ok (BitVec.ofNat 64 ((x.val - base.val) / 2^(128 - p)))
      else .error .overflow := by
  rw [offset_eq_of_le x base p hp hle]
  by_cases hxb : x = base
  · rw [if_pos hxb, hxb, Nat.sub_self, Nat.zero_div, if_pos (Nat.two_pow_pos 64)]
  · rw [if_neg hxb]
    by_cases h64 : p ≤ 64
    · have hp64 : 64 ≤ 128 - p := Nat.le_sub_of_add_le (Nat.add_le_add_left h64 64)
      have hlo : base.val % 2^64 = 0 :=
        Nat.mod_eq_zero_of_dvd (Nat.dvd_trans (Nat.pow_dvd_pow 2 hp64) (Nat.dvd_of_mod_eq_zero hal))
      rw [if_pos h64, ← offset_le64 x base p h64 hlo hle, if_pos (BitVec.isLt _),
        BitVec.ofNat_toNat, BitVec.setWidth_eq]
    · rw [if_neg h64, shr128_lo _ (by omega), ← sub128_val x base hle]
      simp only [shr128_ovf _ (show 128 - p < 64 by omega), ← Nat.not_lt, ite_not]

/-- Offset(a, b, p) = Offset(b, a, p): the code orders its operands itself. -/
theorem C20_offset_symm (a b : Addr) (p : Int) : offset a b p = offset b a p := by
  by_cases hab : a = b
  · rw [hab]
  · have hv : a.val ≠ b.val := fun h => hab (Addr.ext_val h)
    unfold offset
    by_cases h : a.val < b.val
    · rw [if_neg hab, if_neg (Ne.symm hab), if_pos h, if_neg (Nat.not_lt.mpr (Nat.le_of_lt h))]
    · rw [if_neg hab, if_neg (Ne.symm hab), if_neg h, if_pos (Nat.lt_of_le_of_ne (Nat.not_lt.mp h) hv.symm)]

/-- AddPrefixes(base, n, p) is the base of the n-th /p block after base, or overflow when
that lies beyond the end of the address space — never a wrapped address. -/
theorem C20_addPrefixes_exact (base : Addr) (n unit : BitVec 64) (hu : unit.toNat ≤ 128) :
    addPrefixes base n unit =
      if base.val + n.toNat * 2^(128 - unit.toNat) < 2^128
      then .ok (Addr.ofVal (base.val + n.toNat * 2^(128 - unit.toNat)))
      else .error .overflow := by
  rw [addPrefixes_unfold]
  by_cases h1 : unit = 0#64 ∧ n ≠ 0#64
  · have hn : 2^unit.toNat ≤ n.toNat := by
      rw [h1.1]
      exact Nat.pos_of_ne_zero fun h => h1.2 (BitVec.eq_of_toNat_eq h)
    have hov := two_pow_128_le_mul hu hn
    rw [if_pos h1, if_neg (by omega)]
  · rw [if_neg h1]
    by_cases h2 : n = 0#64
    · rw [if_pos h2, h2, BitVec.toNat_zero, Nat.zero_mul, Nat.add_zero, if_pos base.val_lt,
        Addr.ofVal_val]
    · rw [if_neg h2]
      by_cases h3 : unit.toNat < 64 ∧ (n >>> unit.toNat) ≠ 0#64
      · have hov := two_pow_128_le_mul hu ((ushr_ne_zero _ _).mp h3.2)
        rw [if_pos h3, if_neg (by omega)]
      · rw [if_neg h3, add128_exact]
        by_cases h4 : unit.toNat ≤ 64
        · have hn : n.toNat < 2^unit.toNat := by
            by_cases h5 : unit.toNat < 64
            · exact Nat.not_le.mp fun h => h3 ⟨h5, (ushr_ne_zero _ _).mpr h⟩
            · rw [Nat.le_antisymm h4 (Nat.not_lt.mp h5)]; exact n.isLt
          rw [if_pos h4, shl_val n _ h4 hn]
        · have hk : (128#64 - unit).toNat = 128 - unit.toNat := BitVec.toNat_sub_of_le (BitVec.le_def.mpr hu)
          have hlt : 128 - unit.toNat < 64 :=
            Nat.sub_lt_left_of_lt_add hu (Nat.add_lt_add_right (Nat.lt_of_not_le h4) 64)
          rw [if_neg h4, mul64_val, hk, one_shl_toNat hlt]

/-- Offset(AddPrefixes(base, n, p), base, p) = n whenever AddPrefixes succeeds on an aligned base. -/
theorem C20_inverse (base y : Addr) (n : BitVec 64) (p : Nat) (hp : p ≤ 128)
    (hal : base.val % 2^(128 - p) = 0)
    (h : addPrefixes base n (BitVec.ofNat 64 p) = .ok y) :
    offset y base (p : Int) = .ok n := by
  have hpn : (BitVec.ofNat 64 p).toNat = p :=
    (BitVec.toNat_ofNat ..).trans (Nat.mod_eq_of_lt (Nat.lt_of_le_of_lt hp (by decide)))
  rw [C20_addPrefixes_exact base n _ (hpn.symm ▸ hp), hpn] at h
  by_cases hlt : base.val + n.toNat * 2^(128 - p) < 2^128
  · rw [if_pos hlt] at h
    cases h
    rw [C20_offset_exact _ base p hp hal (le_of_le_of_eq (Nat.le_add_right _ _) (Addr.val_ofVal_of_lt hlt).symm),
      Addr.val_ofVal_of_lt hlt, Nat.add_sub_cancel_left, Nat.mul_div_cancel _ (Nat.two_pow_pos _),
      if_pos n.isLt, BitVec.ofNat_toNat, BitVec.setWidth_eq]
  · rw [if_neg hlt] at h
    cases h

/-- `C20_inverse` under a second name; no proof uses it -/
theorem inverse (base y : Addr) (n : BitVec 64) (p : Nat) (hp : p ≤ 128)
    (hal : base.val % 2^(128 - p) = 0)
    (h : addPrefixes base n (BitVec.ofNat 64 p) = .ok y) :
    offset y base (p : Int) = .ok n := C20_inverse base y n p hp hal h

/-- On the whole domain of the property (p in range, the smaller address aligned to /p, either
argument order) the code computes the Nat-level specification `offsetSpec` — the predicate the
driver evaluates on the implementation's answers. -/
theorem C20_offset_spec (a b : Addr) (p : Nat) (hdom : offsetInDomain a b (p : Int) = true) :
    offset a b (p : Int) = offsetSpec a b p := by
  simp only [offsetInDomain, Bool.and_eq_true, decide_eq_true_eq, beq_iff_eq,
    Int.toNat_natCast] at hdom
  obtain ⟨⟨_, hp⟩, hal⟩ := hdom
  have hp : p ≤ 128 := Int.ofNat_le.mp hp
  unfold offsetSpec
  by_cases h : b.val ≤ a.val
  · rw [Nat.min_eq_right h] at hal
    rw [C20_offset_exact a b p hp hal h, Nat.max_eq_left h, Nat.min_eq_right h]
  · have h' : a.val ≤ b.val := Nat.le_of_not_le h
    rw [Nat.min_eq_left h'] at hal
    rw [C20_offset_symm, C20_offset_exact b a p hp hal h', Nat.max_eq_right h', Nat.min_eq_left h']

theorem C20_addPrefixes_spec (base : Addr) (n unit : BitVec 64) (hu : unit.toNat ≤ 128) :
    addPrefixes base n unit = addPrefixesSpec base n.toNat unit.toNat :=
  C20_addPrefixes_exact base n unit hu

/-- D1 (repaired by a `fix:` commit): the code before the repair wrapped silently. The same
input is replayed on the implementation by the conformance corpus. -/
theorem C20_D1_prefix_refuted :
    addPrefixesPreFix ⟨0x20010db800000000#64, 0#64⟩ 256#64 8#64 = .ok ⟨0x20010db800000000#64, 0#64⟩ := rfl

/-- non-vacuity: a concrete aligned base and an address above it -/
example : (⟨0x20010db800000100#64, 0#64⟩ : Addr).val % 2^(128 - 56) = 0 ∧
    (⟨0x20010db800000100#64, 0#64⟩ : Addr).val ≤ (⟨0x20010db800000105#64, 7#64⟩ : Addr).val := by decide

end CoreDhcp
