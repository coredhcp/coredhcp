/-
C17 — Each option plugin adds exactly the configured value, once, in correct wire encoding, under
the condition the property names; ipv6only and autoconfigure stop / drop as stated.
The per-plugin theorems are instances of `holds4_plugHandle4` / `holds6_plugHandle6` (Proofs/OptPlug.lean).
`C17.holds4` / `C17.holds6` are the predicates the driver evaluates on the implementation; here they
are proved of the model, for every configuration, request view and response.
-/
import CoreDhcp.Proofs.OptPlug
namespace CoreDhcp
open Plug

theorem C17_netmask4 (m : netmask.Cfg) (req : ReqView4) (pre : Resp4) :
    C17.holds4 (.netmask m) req pre (netmask.handle m req pre) = true := holds4_plugHandle4 (.netmask m) req pre nofun

theorem C17_router4 (c : router.Cfg) (req : ReqView4) (pre : Resp4) :
    C17.holds4 (.router c) req pre (router.handle c req pre) = true := holds4_plugHandle4 (.router c) req pre nofun

theorem C17_searchdomains4 (c : search.Cfg) (req : ReqView4) (pre : Resp4) :
    C17.holds4 (.search c) req pre (search.handle4 c req pre) = true := holds4_plugHandle4 (.search c) req pre nofun

/-- for every DHCPv6 response holding at most one domain search list already -/
theorem C17_searchdomains6 (c : search.Cfg) (req : ReqView6) (pre : Resp6) (hd : C17.dom6 (.search c) req pre = true) :
    C17.holds6 (.search c) req pre (search.handle6 c req pre) = true := holds6_plugHandle6 (.search c) req pre hd

/-- an accepted configuration has at least one route, so option 121 is always sent -/
theorem C17_staticroute4 (args : List ArgOracle) (c : staticroute.Cfg) (hs : staticroute.setup args = .ok c)
    (req : ReqView4) (pre : Resp4) :
    C17.holds4 (.staticroute c) req pre (staticroute.handle c req pre) = true :=
  holds4_plugHandle4 (.staticroute c) req pre (fun e => staticroute_setup_ne args c hs (Cfg4.staticroute.inj e))

theorem C17_dns4 (c : dns4.Cfg) (req : ReqView4) (pre : Resp4) :
    C17.holds4 (.dns c) req pre (dns4.handle c req pre) = true := holds4_plugHandle4 (.dns c) req pre nofun

theorem C17_dns6 (c : dns6.Cfg) (req : ReqView6) (pre : Resp6) (hd : C17.dom6 (.dns c) req pre = true) :
    C17.holds6 (.dns c) req pre (dns6.handle c req pre) = true := holds6_plugHandle6 (.dns c) req pre hd

theorem C17_mtu4 (c : mtu.Cfg) (req : ReqView4) (pre : Resp4) :
    C17.holds4 (.mtu c) req pre (mtu.handle c req pre) = true := holds4_plugHandle4 (.mtu c) req pre nofun

/-- TFTP server name and boot file name; the plugin ends the chain in every case -/
theorem C17_nbp4 (c : nbp4.Cfg) (req : ReqView4) (pre : Resp4) :
    C17.holds4 (.nbp c) req pre (nbp4.handle c req pre) = true := holds4_plugHandle4 (.nbp c) req pre nofun

/-- Boot file URL, and its parameters (RFC 5970 encoding) only when configured — for responses
without boot file options yet and option request lists naming each code at most once
(`C17.dom6`); the plugin appends, it does not replace. -/
theorem C17_nbp6 (c : nbp6.Cfg) (req : ReqView6) (pre : Resp6) (hd : C17.dom6 (.nbp c) req pre = true) :
    C17.holds6 (.nbp c) req pre (nbp6.handle c req pre) = true := holds6_plugHandle6 (.nbp c) req pre hd

theorem C17_leasetime4 (c : leasetime.Cfg) (req : ReqView4) (pre : Resp4) :
    C17.holds4 (.leasetime c) req pre (leasetime.handle c req pre) = true := holds4_plugHandle4 (.leasetime c) req pre nofun

/-- option 108 and a stopped chain (yiaddr untouched) for clients listing 108 explicitly; nothing
for all others, in particular for clients without a parameter request list -/
theorem C17_ipv6only4 (c : ipv6only.Cfg) (req : ReqView4) (pre : Resp4) :
    C17.holds4 (.ipv6only c) req pre (ipv6only.handle c req pre) = true := holds4_plugHandle4 (.ipv6only c) req pre nofun

/-- an address-less OFFER is answered (option 116 = configured value) for clients that sent
option 116 and dropped for the others; everything else passes unchanged -/
theorem C17_autoconfigure4 (c : autoconfigure.Cfg) (req : ReqView4) (pre : Resp4) :
    C17.holds4 (.autoconfigure c) req pre (autoconfigure.handle c req pre) = true := holds4_plugHandle4 (.autoconfigure c) req pre nofun

theorem C17_sleep4 (c : sleep.Cfg) (req : ReqView4) (pre : Resp4) :
    C17.holds4 (.sleep c) req pre (sleep.handle4 c req pre) = true := holds4_plugHandle4 (.sleep c) req pre nofun

theorem C17_sleep6 (c : sleep.Cfg) (req : ReqView6) (pre : Resp6) :
    C17.holds6 (.sleep c) req pre (sleep.handle6 c req pre) = true := holds6_plugHandle6 (.sleep c) req pre rfl

theorem C17_builtin4 (name : String) (args : List ArgOracle) (cfg : Cfg4) (req : ReqView4) (pre : Resp4)
    (h : plugSetup4 name args = some (.ok cfg)) : C17.holds4 cfg req pre (plugHandle4 cfg req pre) = true :=
  holds4_plugHandle4 cfg req pre fun e =>
    staticroute_setup_ne args [] (plugSetup4_accepted name args (.staticroute []) (e ▸ h)) rfl

theorem C17_builtin6 (name : String) (args : List ArgOracle) (cfg : Cfg6) (req : ReqView6) (pre : Resp6)
    (h : plugSetup6 name args = some (.ok cfg)) (hd : C17.dom6 cfg req pre = true) :
    C17.holds6 cfg req pre (plugHandle6 cfg req pre) = true := holds6_plugHandle6 cfg req pre hd

/-! "Exactly the configured value" for the numbers (MTU, lease time, V6ONLY_WAIT); findings D22–D24.

`setupOld` is the set-up of mtu, lease_time and ipv6only in the repository before three `fix:` commits: it accepts
every number the standard library parses, and the handlers send it modulo 2^16 / 2^32 — an accepted configuration
for which the plugin does NOT add the configured value. `setup` tests the range, so the range is a consequence of
acceptance (`C17_*_accepted_in_range`) and the per-plugin statements `C17_*4_accepted` need no range hypothesis:
C17 speaks of every ACCEPTED configuration. -/

/-- an MTU of 0..65535 is sent as that number -/
theorem C17_inrange_mtu (n : Int) (h0 : 0 ≤ n) (h1 : n ≤ 65535) : decBe 2 (encU16 n) = some n.toNat := by
  rw [decBe_encU16, Int.emod_eq_of_lt h0 (by omega)]

/-- a duration of 0 to 2^32-1 seconds is sent as its whole seconds -/
theorem C17_inrange_seconds (d : Int) (h0 : 0 ≤ d) (h1 : d < 4294967296 * 1000000000) :
    decBe 4 (encSecs d) = some (d / 1000000000).toNat := by
  rw [decBe_encSecs, Int.tdiv_eq_ediv_of_nonneg h0,
    Int.emod_eq_of_lt (Int.ediv_nonneg h0 (by decide)) (Int.ediv_lt_of_lt_mul (by decide) h1)]

theorem C17_mtu_accepted_in_range (args : List ArgOracle) (n : Int) (h : mtu.setup args = .ok n) :
    0 ≤ n ∧ n ≤ 65535 := mtu_accepted args n h

/-- what lease_time's set-up accepts is a duration of 0 to 2^32-1 seconds (nanoseconds; exactly 2^32-1
seconds is the last one accepted, so the whole seconds are < 2^32) -/
theorem C17_leasetime_accepted_in_range (args : List ArgOracle) (d : Int) (h : leasetime.setup args = .ok d) :
    0 ≤ d ∧ d ≤ 4294967295 * 1000000000 := leasetime_accepted args d h

theorem C17_ipv6only_accepted_in_range (args : List ArgOracle) (d : Int) (h : ipv6only.setup args = .ok d) :
    0 ≤ d ∧ d ≤ 4294967295 * 1000000000 := ipv6only_accepted args d h

/-- every configuration a built-in DHCPv4 plugin accepts holds numbers that fit the field they are sent in -/
theorem C17_accepted_in_range (name : String) (args : List ArgOracle) (cfg : Cfg4)
    (h : plugSetup4 name args = some (.ok cfg)) : C17.inRange4 cfg = true :=
  inRange4_of_accepted args cfg (plugSetup4_accepted name args cfg h)

/-- the range is exactly what "announced as itself" needs: a number outside it is never what a client reads -/
theorem C17_exact_iff_in_range (cfg : Cfg4) : C17.exact4 cfg = true ↔ C17.inRange4 cfg = true := by
  cases cfg with
  | mtu n => simp only [C17.exact4, C17.inRange4, beq_iff_eq, u16_exact_iff, Bool.and_eq_true, decide_eq_true_eq]
  | leasetime d | ipv6only d =>
    simp only [C17.exact4, C17.inRange4, beq_iff_eq, secs_exact_iff, Bool.and_eq_true, decide_eq_true_eq]
  | _ => exact Iff.rfl

/-- … and so what a client decodes from the option is the configured number (`C17.exact4`: the MTU; the
whole seconds of a duration) — for EVERY accepted configuration, no range hypothesis -/
theorem C17_accepted_exact (name : String) (args : List ArgOracle) (cfg : Cfg4)
    (h : plugSetup4 name args = some (.ok cfg)) : C17.exact4 cfg = true :=
  (C17_exact_iff_in_range cfg).mpr (C17_accepted_in_range name args cfg h)

/-- mtu, for every ACCEPTED configuration: option 26 is added exactly when asked for (or no list), nothing
else is touched, and its two bytes read back as the configured MTU -/
theorem C17_mtu4_accepted (args : List ArgOracle) (c : mtu.Cfg) (hs : mtu.setup args = .ok c)
    (req : ReqView4) (pre : Resp4) :
    C17.holds4 (.mtu c) req pre (mtu.handle c req pre) = true ∧
    (decBe 2 (encU16 c)).map Int.ofNat = some c :=
  ⟨C17_mtu4 c req pre, (u16_exact_iff c).mpr (mtu_accepted args c hs)⟩

/-- lease_time, for every ACCEPTED configuration: option 51 is added when no lease time is set yet, and
its four bytes read back as the configured duration cut to whole seconds (parts of a second are
accepted and not sent: the option has no room for them) -/
theorem C17_leasetime4_accepted (args : List ArgOracle) (c : leasetime.Cfg) (hs : leasetime.setup args = .ok c)
    (req : ReqView4) (pre : Resp4) :
    C17.holds4 (.leasetime c) req pre (leasetime.handle c req pre) = true ∧
    (decBe 4 (encSecs c)).map Int.ofNat = some (c / 1000000000) :=
  have hr := leasetime_accepted args c hs
  ⟨C17_leasetime4 c req pre, (secs_exact_iff c).mpr ⟨hr.1, by omega⟩⟩

/-- ipv6only, for every ACCEPTED configuration: option 108 and a stopped chain for clients listing it, and
its four bytes read back as the configured V6ONLY_WAIT cut to whole seconds -/
theorem C17_ipv6only4_accepted (args : List ArgOracle) (c : ipv6only.Cfg) (hs : ipv6only.setup args = .ok c)
    (req : ReqView4) (pre : Resp4) :
    C17.holds4 (.ipv6only c) req pre (ipv6only.handle c req pre) = true ∧
    (decBe 4 (encSecs c)).map Int.ofNat = some (c / 1000000000) :=
  have hr := ipv6only_accepted args c hs
  ⟨C17_ipv6only4 c req pre, (secs_exact_iff c).mpr ⟨hr.1, by omega⟩⟩

/-- D22: `setupOld` accepts `mtu 70000`, announced as 4464, and `mtu -1`, announced as 65535; `setup` refuses both. -/
theorem C17_D22_mtu_refuted :
    let a : ArgOracle := { raw := strBytes "70000", int := some 70000 }
    let b : ArgOracle := { raw := strBytes "-1", int := some (-1) }
    mtu.setupOld [a] = .ok 70000 ∧ decBe 2 (encU16 70000) = some 4464 ∧ C17.exact4 (.mtu 70000) = false ∧
    mtu.setupOld [b] = .ok (-1) ∧ decBe 2 (encU16 (-1)) = some 65535 ∧ C17.exact4 (.mtu (-1)) = false ∧
    mtu.setup [a] = .error () ∧ mtu.setup [b] = .error () := by
  refine ⟨rfl, ?_, ?_, rfl, ?_, ?_, rfl, rfl⟩ <;> decide +kernel

/-- D23: `setupOld` accepts `lease_time -1h`, announced as 4294963696 s, and `lease_time 1193047h`, announced as
1904 s; `setup` refuses both. -/
theorem C17_D23_leasetime_refuted :
    let a : ArgOracle := { raw := strBytes "-1h", dur := some (-3600000000000) }
    let b : ArgOracle := { raw := strBytes "1193047h", dur := some 4294969200000000000 }
    leasetime.setupOld [a] = .ok (-3600000000000) ∧ decBe 4 (encSecs (-3600000000000)) = some 4294963696 ∧
    C17.exact4 (.leasetime (-3600000000000)) = false ∧
    leasetime.setupOld [b] = .ok 4294969200000000000 ∧ decBe 4 (encSecs 4294969200000000000) = some 1904 ∧
    C17.exact4 (.leasetime 4294969200000000000) = false ∧
    leasetime.setup [a] = .error () ∧ leasetime.setup [b] = .error () := by
  refine ⟨rfl, ?_, ?_, rfl, ?_, ?_, rfl, rfl⟩ <;> decide +kernel

/-- D24: `setupOld` accepts `ipv6only -1s`, which tells the clients to wait 4294967295 s; `setup` refuses it. -/
theorem C17_D24_ipv6only_refuted :
    let a : ArgOracle := { raw := strBytes "-1s", dur := some (-1000000000) }
    let b : ArgOracle := { raw := strBytes "4294967296s", dur := some 4294967296000000000 }
    ipv6only.setupOld [a] = .ok (-1000000000) ∧ decBe 4 (encSecs (-1000000000)) = some 4294967295 ∧
    C17.exact4 (.ipv6only (-1000000000)) = false ∧
    ipv6only.setupOld [b] = .ok 4294967296000000000 ∧ decBe 4 (encSecs 4294967296000000000) = some 0 ∧
    C17.exact4 (.ipv6only 4294967296000000000) = false ∧
    ipv6only.setup [a] = .error () ∧ ipv6only.setup [b] = .error () := by
  refine ⟨rfl, ?_, ?_, rfl, ?_, ?_, rfl, rfl⟩ <;> decide +kernel

/-- the boundaries: 0 and 65535, 0 s and 2^32-1 s are accepted; a part of a second is accepted and cut
(1500 ms is announced as 1 s); -100 ms — which the library would have sent as 0 — is refused -/
example : mtu.setup [{ raw := [], int := some 0 }] = .ok 0 ∧ mtu.setup [{ raw := [], int := some 65535 }] = .ok 65535 ∧
    mtu.setup [{ raw := [], int := some 65536 }] = .error () := ⟨rfl, rfl, rfl⟩
example : leasetime.setup [{ raw := [], dur := some 0 }] = .ok 0 ∧
    leasetime.setup [{ raw := [], dur := some 4294967295000000000 }] = .ok 4294967295000000000 ∧
    leasetime.setup [{ raw := [], dur := some 4294967295000000001 }] = .error () ∧
    leasetime.setup [{ raw := [], dur := some 1500000000 }] = .ok 1500000000 ∧ decBe 4 (encSecs 1500000000) = some 1 ∧
    leasetime.setup [{ raw := [], dur := some (-100000000) }] = .error () ∧
    leasetime.setupOld [{ raw := [], dur := some (-100000000) }] = .ok (-100000000) ∧ decBe 4 (encSecs (-100000000)) = some 0 :=
  ⟨rfl, rfl, rfl, rfl, by decide +kernel, rfl, rfl, by decide +kernel⟩
example : ipv6only.setup [] = .ok 0 ∧ ipv6only.setup [{ raw := [], dur := some 4294967295000000000 }] = .ok 4294967295000000000 ∧
    ipv6only.setup [{ raw := [], dur := some (-100000000) }] = .error () ∧
    ipv6only.setup [{ raw := [], dur := some (-1000000000) }, { raw := [] }] = .error () := ⟨rfl, rfl, rfl, rfl⟩

/-- D17: `nbp6.added` in the repository before the `fix:` commit that repaired it — option 60 carries the raw
`params` string instead of length-prefixed parameters (RFC 5970 §3.2). -/
def nbp6AddedPreFix (cfg : nbp6.Cfg) : List Nat → Opts
  | [] => []
  | c :: rest =>
    if c = 59 then (59, cfg.o59) :: nbp6AddedPreFix cfg rest
    else if c = 60 then
      match cfg.o60 with
      | some p => (60, p) :: nbp6AddedPreFix cfg rest
      | none => nbp6AddedPreFix cfg rest
    else nbp6AddedPreFix cfg rest

def nbp6HandlePreFix (cfg : nbp6.Cfg) (req : ReqView6) (pre : Resp6) : Out6 :=
  (some { pre with opts := pre.opts ++ nbp6AddedPreFix cfg (oro6 req) }, true)

/-- D17. For `…?params=p1` and a client asking for option 60 the reply
carries `60:7031`, which is not a list of length-prefixed parameters (it does not even parse), and C17 fails;
`nbp6.handle` sends `60:00027031`. The same exchange is in the conformance corpus. -/
theorem C17_D17_prefix_refuted :
    let cfg : nbp6.Cfg := ⟨[116], some [112, 49]⟩
    let req : ReqView6 := ⟨0, 1, [(1, [254]), (6, [0, 60])]⟩
    let pre : Resp6 := ⟨2, [(1, [254])]⟩
    nbp6.setup [{ raw := [116], url := some ⟨[], [], [116], [116], [112, 49]⟩ }] = .ok cfg ∧
    C17.dom6 (.nbp cfg) req pre = true ∧
    nbp6HandlePreFix cfg req pre = (some ⟨2, [(1, [254]), (60, [112, 49])]⟩, true) ∧
    decodeBootParams [112, 49] = none ∧
    C17.holds6 (.nbp cfg) req pre (nbp6HandlePreFix cfg req pre) = false ∧
    C17.holds6 (.nbp cfg) req pre (nbp6.handle cfg req pre) = true := by
  refine ⟨rfl, ?_, ?_, ?_, ?_, ?_⟩ <;> decide +kernel

/-- non-vacuity: a DISCOVER without parameter request list gets the DNS servers, one that lists
only the router option does not -/
example : dns4.handle [[8, 8, 8, 8]] ⟨1, 1, [0, 0, 0, 0], [0, 0, 0, 0], [(53, [1])]⟩ ⟨2, [0, 0, 0, 0], [0, 0, 0, 0], [(53, [2])]⟩ =
    (some ⟨2, [0, 0, 0, 0], [0, 0, 0, 0], [(6, [8, 8, 8, 8]), (53, [2])]⟩, false) := by decide
example : dns4.handle [[8, 8, 8, 8]] ⟨1, 1, [0, 0, 0, 0], [0, 0, 0, 0], [(53, [1]), (55, [3])]⟩ ⟨2, [0, 0, 0, 0], [0, 0, 0, 0], [(53, [2])]⟩ =
    (some ⟨2, [0, 0, 0, 0], [0, 0, 0, 0], [(53, [2])]⟩, false) := by decide

end CoreDhcp
