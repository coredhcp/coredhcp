/-
C02 — DHCPv4 dynamic leases: in range, one client per address, stable per client.
-/
import CoreDhcp.Proofs.Range
namespace CoreDhcp

/-- For every range `start < end`, every lease time, every history of requests (any hardware
addresses of any length, any times) interleaved with restarts on the lease table written so far,
every admissible allocator policy and every map-iteration order of the re-marking loop:
every reply carries an address inside the range and the configured lease time, a client always
gets the address it was first given, no address is given to two clients, and a request goes
unanswered only when the client is unknown and all addresses are bound.
(`hkey`: a stored hardware address is read back as the same address — see C03.) -/
theorem C02_holds (start stop : BitVec 32) (lease : Int)
    (loadKey : Mac → Option Mac) (order : List (Mac × Rec) → List (Mac × Rec))
    (hkey : ∀ m, loadKey m = some m) (hperm : ∀ l, (order l).Perm l)
    (s0 : RState) (hs0 : RState.setup start stop lease [] loadKey order = .ok s0)
    (ops : List ROp) (cs : List (Option Nat)) (evs : List REv) (z : RState)
    (hrun : RState.run loadKey order s0 ops cs = some (evs, z)) :
    C02.holds ⟨start, stop, lease⟩ evs = true := by
  unfold C02.holds
  exact all_of_all_imp (RState.run_verdicts start stop lease loadKey order hkey hperm s0 hs0 ops cs evs z hrun)
    (fun _ hv => (Bool.and_eq_true_iff.1 hv).1)

/-- The model is never stuck: the choice the code makes (first fit) is admissible in every state,
so `C02_holds` speaks about every request sequence. -/
theorem C02_progress (s : RState) (mac : Mac) (now : Int) :
    (s.handle mac now s.alloc.firstFit).isSome = true := by
  unfold RState.handle
  cases lookupRec s.recs mac with
  | none =>
    rw [eq_some_getD_of_isSome (A4.firstFit_admissible s.alloc none) (s.alloc, .panic)]
    generalize Option.getD _ _ = p
    obtain ⟨a', r⟩ := p
    cases r <;> rfl
  | some r =>
    simp only
    split <;> rfl

/-- non-vacuity: a concrete history (new client, renewal, second client, exhaustion, restart)
is a run of the model and its monitor verdicts are all true -/
example :
    ∃ s0 evs z, RState.setup 0x0a000001#32 0x0a000002#32 3600000000000 [] some id = .ok s0 ∧
      RState.run some id s0
        [.req [1,2,3,4,5,6] 1000, .req [1,2,3,4,5,6] 2000, .req [7] 3000, .req [9,9] 4000,
         .restart [[7], [1,2,3,4,5,6], [8,8,8]] 5000]
        [some 0, none, some 1, none, none, none, none] = some (evs, z) ∧
      evs.length = 5 ∧ C02.holds ⟨0x0a000001#32, 0x0a000002#32, 3600000000000⟩ evs = true :=
  ⟨_, _, _, rfl, rfl, rfl, rfl⟩

end CoreDhcp
