/-
C15 — DHCPv4 replies are addressed per RFC 2131 §4.1.
-/
import CoreDhcp.Proofs.Dispatch
namespace CoreDhcp

/-- For every request, every reply the chain produces (any handlers), every listener binding and
receiving interface: destination, port, link-level flag and interface pinning are those of the
RFC 2131 §4.1 table as the property states it (`C15.expected`). -/
theorem C15_holds (bound : Nat) (oob : Option Nat) (hs : List Handler4) (input : Option Req4) :
    C15.holds bound oob input (dispatch4 bound oob hs input) = true := by
  refine dispatch4_elim (motive := fun out => C15.holds bound oob input out = true) bound oob hs input ?_ ?_
  · cases input <;> rfl
  · intro req r0 resp hi _ _
    rw [hi]
    exact C15_deliver bound oob req resp

/-- With the listener bound, or the kernel reporting the receiving interface (what `listen4`
arranges: fact F5), the link-level path always has an interface to send on. -/
theorem C15_has_interface (bound : Nat) (oob : Option Nat) (hs : List Handler4) (input : Option Req4)
    (henv : bound ≠ 0 ∨ ∃ i, oob = some i ∧ i ≠ 0) : dispatch4 bound oob hs input ≠ .panicNoIf :=
  dispatch4_elim (motive := (· ≠ .panicNoIf)) bound oob hs input nofun
    fun req _ resp _ _ _ => deliver4_no_panic bound oob req resp henv

end CoreDhcp
