/-
What `HandleMsg4` / `HandleMsg6` (Model/Dispatch.lean) do around the handler chain (the chain itself is
Proofs/Chain.lean), and the plugin loader (Model/Plugins.lean): the lemmas behind Props/C11, C12, C13, C15, behind the
translator units GenDispatch4/6 (`pin_atoms`, `stub6_eq`) and GenLoadPlugins (`loadChain_cons`, `loadPlugins_chainOf`),
behind Proofs/System.lean and, with `loadPlugins_ok/_error`, Props/Server.lean.
Of the definitions here, statements elsewhere rest on `supported` (C13_load_*), `Gen6.chainOf`
(GEN_lp_load_tagged) and `deliver4` (`absOut4_deliver` of Proofs/System.lean); `deliver6` serves the proofs only.
-/
import CoreDhcp.Spec.Dispatch
import CoreDhcp.Model.Plugins
namespace CoreDhcp

/-! Found first, these spare `simp` the long search through the order classes that it otherwise makes, at every call that
meets a `==`, before it finds them. -/
local instance : ReflBEq Nat := inferInstance
local instance : LawfulBEq (BitVec 32) := inferInstance
local instance : ReflBEq (BitVec 32) := inferInstance

/-- `pin` on what the Go conditions test: `oob != nil`, `oob.IfIndex` -/
theorem pin_atoms (bound : Nat) (oob : Option Nat) :
    pin bound oob =
      if bound != 0 then some bound else if oob.isSome && oob.getD 0 != 0 then some (oob.getD 0) else none := by
  unfold pin
  simp only [bne_iff_ne, Bool.and_eq_true]
  cases oob with
  | none => rfl
  | some i => simp only [Option.isSome_some, Option.getD_some, true_and]

/-- `pin` as C12 and C15 spell it -/
theorem pin_eq (bound : Nat) (oob : Option Nat) :
    pin bound oob = (if bound != 0 then some bound else oob.bind (fun i => if i != 0 then some i else none)) := by
  rw [pin_atoms]
  cases oob <;> rfl

theorem pin_eq_none_iff (bound : Nat) (oob : Option Nat) :
    pin bound oob = none ↔ bound = 0 ∧ oob.getD 0 = 0 := by
  rw [pin_atoms]
  by_cases hb : bound = 0
  · cases oob with
    | none => simp [hb]
    | some i => by_cases hi : i = 0 <;> simp [hb, hi]
  · simp [hb]

theorem stub4_some (req : Req4) (r0 : Resp4) (h : stub4 req = some r0) :
    req.op = 1 ∧ (req.mt = 1 ∨ req.mt = 3) ∧ echo4 req r0 = true ∧ typeOk4 req r0 = true := by
  have hop : req.op = 1 := by
    apply Decidable.byContradiction
    intro hn
    rw [stub4, if_pos hn] at h
    cases h
  rw [stub4, if_neg (not_not_intro hop)] at h
  by_cases h1 : req.mt = 1
  · rw [if_pos h1] at h
    cases h
    exact ⟨hop, Or.inl h1, by simp [echo4], by simp [typeOk4, h1]⟩
  · rw [if_neg h1] at h
    by_cases h3 : req.mt = 3
    · rw [if_pos h3] at h
      cases h
      exact ⟨hop, Or.inr h3, by simp [echo4], by simp [typeOk4, h3]⟩
    · rw [if_neg h3] at h; cases h

theorem echo4_chaddr (req : Req4) (r : Resp4) (h : echo4 req r = true) : r.chaddr = req.chaddr := by
  simp only [echo4, Bool.and_eq_true, beq_iff_eq] at h
  exact h.1.1.1.1.2

/-- the part of `dispatch4` after the chain returned `some resp` -/
def deliver4 (bound : Nat) (oob : Option Nat) (req : Req4) (resp : Resp4) : Out4 :=
  let p := peer4 req resp
  let needPin := p.1 == bcast4 || isLinkLocal4 p.1 || p.2.2
  let woob := if needPin then pin bound oob else none
  if p.2.2 && woob.isNone then .panicNoIf
  else .send resp p.1 p.2.1 woob p.2.2

theorem dispatch4_eq (bound : Nat) (oob : Option Nat) (hs : List Handler4) (req : Req4) (r0 : Resp4)
    (h0 : stub4 req = some r0) :
    dispatch4 bound oob hs (some req) =
      match (runChain hs req 0 (some r0)).1 with
      | none => .drop
      | some resp => deliver4 bound oob req resp := by
  simp only [dispatch4, h0]
  rfl

theorem dispatch4_elim {motive : Out4 → Prop} (bound : Nat) (oob : Option Nat) (hs : List Handler4)
    (input : Option Req4) (drop : motive .drop)
    (deliver : ∀ req r0 resp, input = some req → stub4 req = some r0 →
      (runChain hs req 0 (some r0)).1 = some resp → motive (deliver4 bound oob req resp)) :
    motive (dispatch4 bound oob hs input) := by
  cases input with
  | none => exact drop
  | some req =>
    cases h0 : stub4 req with
    | none => simp only [dispatch4, h0]; exact drop
    | some r0 =>
      rw [dispatch4_eq bound oob hs req r0 h0]
      cases hc : (runChain hs req 0 (some r0)).1 with
      | none => exact drop
      | some resp => exact deliver req r0 resp rfl h0 hc

theorem deliver4_cases (bound : Nat) (oob : Option Nat) (req : Req4) (resp : Resp4) :
    deliver4 bound oob req resp = .panicNoIf ∨
    ∃ peer port ifidx l2, deliver4 bound oob req resp = .send resp peer port ifidx l2 := by
  unfold deliver4
  dsimp only
  generalize ((peer4 req resp).2.2 && _) = c
  cases c
  · exact Or.inr ⟨_, _, _, _, rfl⟩
  · exact Or.inl rfl

theorem dispatch4_send (bound : Nat) (oob : Option Nat) (hs : List Handler4) (input : Option Req4)
    (resp : Resp4) (peer : BitVec 32) (port : Nat) (ifidx : Option Nat) (l2 : Bool)
    (h : dispatch4 bound oob hs input = .send resp peer port ifidx l2) :
    ∃ req r0, input = some req ∧ stub4 req = some r0 ∧ (runChain hs req 0 (some r0)).1 = some resp := by
  revert h
  refine dispatch4_elim (motive := fun out => out = .send resp peer port ifidx l2 → _) bound oob hs input ?_ ?_
  · nofun
  · intro req r0 resp' hi h0 hc h
    rcases deliver4_cases bound oob req resp' with hd | ⟨_, _, _, _, hd⟩
    · rw [hd] at h; cases h
    · rw [hd] at h; cases h
      exact ⟨req, r0, hi, h0, hc⟩

theorem C11_send (req : Req4) (r0 resp : Resp4) (peer : BitVec 32) (port : Nat) (ifidx : Option Nat) (l2 : Bool)
    (h0 : stub4 req = some r0) (hr : echo4 req resp = true ∧ typeOk4 req resp = true) :
    C11.holds (some req) (.send resp peer port ifidx l2) = true := by
  obtain ⟨h1, h2, _⟩ := stub4_some req r0 h0
  simp only [C11.holds, hr.1, hr.2, h1, Bool.and_true]
  rcases h2 with h2 | h2 <;> simp [h2]

theorem C15_expected_eq (bound : Nat) (oob : Option Nat) (req : Req4) (resp : Resp4) :
    C15.expected bound oob req resp =
      ((peer4 req resp).1, (peer4 req resp).2.1,
        if (peer4 req resp).2.2 || isLinkLocal4 (peer4 req resp).1 || (peer4 req resp).1 == bcast4
          then pin bound oob else none,
        (peer4 req resp).2.2) := by
  unfold C15.expected peer4
  -- both sides test the same four facts: with these as Boolean variables the equation is a truth table
  -- over addresses that stay opaque
  simp only [← pin_eq, ← bne_iff_ne (a := req.giaddr), ← bne_iff_ne (a := req.ciaddr),
    ← beq_iff_eq (a := resp.mt), ← beq_iff_eq (a := req.flags / 32768 % 2)]
  -- with `pin` in sight the `rfl`s below unfold it instead of reducing the `if` on the other side
  generalize pin bound oob = w
  generalize (req.giaddr != 0#32) = g
  generalize (resp.mt == 6) = n
  generalize (req.ciaddr != 0#32) = c
  generalize (req.flags / 32768 % 2 == 1) = f
  cases g
  · cases n
    · cases c
      · cases f
        · rfl
        · simp only [Bool.false_eq_true, if_false, if_true]; rfl
      · rfl
    · simp only [Bool.false_eq_true, if_false, if_true]; rfl
  · rfl

theorem C15_deliver (bound : Nat) (oob : Option Nat) (req : Req4) (resp : Resp4) :
    C15.holds bound oob (some req) (deliver4 bound oob req resp) = true := by
  unfold deliver4
  dsimp only
  -- `deliver4` tests broadcast, link-local, l2 in this order; `C15_expected_eq` has l2 first, since `||`
  -- reduces on its first argument and the `rfl`s of its proof need that
  have hor : ∀ a b c : Bool, (a || b || c) = (c || b || a) := by decide
  rw [hor]
  cases hl : (peer4 req resp).2.2 && (if ((peer4 req resp).2.2 || isLinkLocal4 (peer4 req resp).1 ||
      (peer4 req resp).1 == bcast4) = true then pin bound oob else none).isNone
  · simp only [Bool.false_eq_true, if_false, C15.holds, C15_expected_eq, beq_self_eq_true]
  · rw [Bool.and_eq_true] at hl
    rw [hl.1, Bool.true_or, Bool.true_or, if_pos rfl, Option.isNone_iff_eq_none, pin_eq_none_iff] at hl
    simp only [if_true, C15.holds, hl.2.1, hl.2.2, decide_true, beq_self_eq_true, Bool.and_self]

theorem deliver4_no_panic (bound : Nat) (oob : Option Nat) (req : Req4) (resp : Resp4)
    (henv : bound ≠ 0 ∨ ∃ i, oob = some i ∧ i ≠ 0) : deliver4 bound oob req resp ≠ .panicNoIf := by
  intro hp
  have h := C15_deliver bound oob req resp
  rw [hp] at h
  simp only [C15.holds, Bool.and_eq_true, decide_eq_true_iff, beq_iff_eq] at h
  rcases henv with hb | ⟨i, rfl, hi⟩
  · exact hb h.1
  · exact hi h.2

/-- the part of `dispatch6` after the chain returned `some resp` -/
def deliver6 (bound : Nat) (oob : Option Nat) (src : Addr) (d : Pkt6) (resp : Resp6) : Out6 :=
  let woob := if isLinkLocal6 src then pin bound oob else none
  match d.layers with
  | [] => .send [] resp woob
  | l :: _ =>
    if l.mt ≠ 12 then .drop
    else .send (mirror d.layers) resp woob

theorem dispatch6_eq (bound : Nat) (oob : Option Nat) (src : Addr) (hs : List Handler6) (d : Pkt6) (m : Msg6)
    (r0 : Resp6) (hm : d.msg = some m) (h0 : stub6 m = some r0) :
    dispatch6 bound oob src hs (some d) =
      match (runChain hs d 0 (some r0)).1 with
      | none => .drop
      | some resp => deliver6 bound oob src d resp := by
  simp only [dispatch6, hm, h0]
  rfl

theorem deliver6_cases (bound : Nat) (oob : Option Nat) (src : Addr) (d : Pkt6) (resp : Resp6) :
    (deliver6 bound oob src d resp = .drop ∧ ∃ l rest, d.layers = l :: rest ∧ l.mt ≠ 12) ∨
    deliver6 bound oob src d resp =
      .send (mirror d.layers) resp (if isLinkLocal6 src then pin bound oob else none) := by
  unfold deliver6
  cases d.layers with
  | nil => exact .inr rfl
  | cons l rest =>
    by_cases h12 : l.mt = 12
    · exact .inr (if_neg (not_not_intro h12))
    · exact .inl ⟨if_pos h12, l, rest, rfl, h12⟩

theorem dispatch6_elim {motive : Out6 → Prop} (bound : Nat) (oob : Option Nat) (src : Addr) (hs : List Handler6)
    (input : Option Pkt6) (drop : motive .drop)
    (deliver : ∀ d m r0 resp, input = some d → d.msg = some m → stub6 m = some r0 →
      (runChain hs d 0 (some r0)).1 = some resp → motive (deliver6 bound oob src d resp)) :
    motive (dispatch6 bound oob src hs input) := by
  cases input with
  | none => exact drop
  | some d =>
    cases hm : d.msg with
    | none => simp only [dispatch6, hm]; exact drop
    | some m =>
      cases h0 : stub6 m with
      | none => simp only [dispatch6, hm, h0]; exact drop
      | some r0 =>
        rw [dispatch6_eq bound oob src hs d m r0 hm h0]
        cases hc : (runChain hs d 0 (some r0)).1 with
        | none => exact drop
        | some resp => exact deliver d m r0 resp rfl hm h0 hc

theorem dispatch6_send (bound : Nat) (oob : Option Nat) (src : Addr) (hs : List Handler6) (input : Option Pkt6)
    (layers : List Layer6) (resp : Resp6) (ifidx : Option Nat)
    (h : dispatch6 bound oob src hs input = .send layers resp ifidx) :
    ∃ d m r0, input = some d ∧ d.msg = some m ∧ stub6 m = some r0 ∧
      (runChain hs d 0 (some r0)).1 = some resp ∧ layers = mirror d.layers ∧
      ifidx = (if isLinkLocal6 src then pin bound oob else none) := by
  revert h
  refine dispatch6_elim (motive := fun out => out = .send layers resp ifidx → _) bound oob src hs input ?_ ?_
  · nofun
  · intro d m r0 resp' hi hm h0 hc h
    rcases deliver6_cases bound oob src d resp' with ⟨hd, _⟩ | hd
    · rw [hd] at h; cases h
    · rw [hd] at h; cases h
      exact ⟨d, m, r0, hi, hm, h0, hc, rfl, rfl⟩

theorem stub6_eq (m : Msg6) :
    stub6 m = m.cid.bind fun c =>
      (replyType6 m).map fun k => ⟨k, m.xid, some c, m.mt == 1 && m.rapid, []⟩ := by
  unfold stub6 replyType6
  cases m.cid with
  | none => rfl
  | some c =>
    dsimp only [Option.bind_some]
    by_cases h1 : m.mt = 1
    · rw [if_pos h1, if_pos h1, beq_iff_eq.mpr h1]
      cases m.rapid <;> rfl
    · rw [if_neg h1, if_neg h1]
      simp only [List.mem_cons, List.not_mem_nil, or_false, beq_eq_false_iff_ne.mpr h1, Bool.false_and]
      split <;> rfl

theorem stub6_some (m : Msg6) (r0 : Resp6) (h : stub6 m = some r0) :
    replyType6 m = some r0.mt ∧ r0.xid = m.xid ∧ m.cid.isSome = true ∧ r0.cid = m.cid ∧
      r0.rapid = (m.mt == 1 && m.rapid) := by
  rw [stub6_eq] at h
  obtain ⟨c, hc, h⟩ := Option.bind_eq_some_iff.mp h
  obtain ⟨k, hk, rfl⟩ := Option.map_eq_some_iff.mp h
  rw [hc]
  exact ⟨hk, rfl, rfl, rfl, rfl⟩

theorem mirror_zip_all (ls : List Layer6) :
    ((mirror ls).zip ls).all
      (fun (a, b) => a.mt == 13 && a.link == b.link && a.peer == b.peer && a.iid == b.iid) = true := by
  induction ls with
  | nil => rfl
  | cons l rest ih =>
    rw [mirror, List.map_cons, List.zip_cons_cons, List.all_cons, ← mirror, ih]
    simp only [beq_self_eq_true, Bool.and_self]

theorem mirror_length (ls : List Layer6) : (mirror ls).length = ls.length := by simp [mirror]

theorem mirror_getElem (ls : List Layer6) (i : Nat) (h : i < (mirror ls).length) :
    (mirror ls)[i] = { ls[i]'(by rw [← mirror_length ls]; exact h) with mt := 13 } :=
  List.getElem_map _

theorem C12_send (bound : Nat) (oob : Option Nat) (src : Addr) (d : Pkt6) (m : Msg6) (r0 resp : Resp6)
    (hm : d.msg = some m) (h0 : stub6 m = some r0)
    (hr : resp.mt = r0.mt ∧ resp.xid = r0.xid ∧ resp.cid = r0.cid ∧ resp.rapid = r0.rapid) :
    C12.holds bound oob src (some d)
      (.send (mirror d.layers) resp (if isLinkLocal6 src then pin bound oob else none)) = true := by
  obtain ⟨s1, s2, s3, s4, s5⟩ := stub6_some m r0 h0
  obtain ⟨a1, a2, a3, a4⟩ := hr
  simp only [C12.holds, hm, a1, a2, a3, a4, s1, s2, s3, s4, s5, mirror_length, mirror_zip_all, ← pin_eq, beq_self_eq_true,
    Bool.and_self]

/-- the plugins of the list that the registry supports for this protocol, with their setup result -/
def supported {H : Type} (reg : Registry H) (ps : List (String × List String)) : List (String × Except Unit (Option H)) :=
  ps.filterMap (fun p => match reg p.1 with | some (some f) => some (p.1, f p.2) | _ => none)

theorem supported_nil {H : Type} (reg : Registry H) : supported reg [] = [] := rfl

theorem supported_cons {H : Type} (reg : Registry H) (name : String) (args : List String)
    (rest : List (String × List String)) :
    supported reg ((name, args) :: rest) =
      match reg name with
      | some (some f) => (name, f args) :: supported reg rest
      | _ => supported reg rest := by
  unfold supported
  rw [List.filterMap_cons]
  dsimp only
  rcases reg name with _ | _ | f <;> rfl

theorem loadChain_cons {H : Type} (reg : Registry H) (name : String) (args : List String)
    (rest : List (String × List String)) :
    loadChain reg ((name, args) :: rest) =
      match reg name with
      | none => .error (.unknown name)
      | some none => loadChain reg rest
      | some (some f) =>
        match f args with
        | .error _ => .error (.setup name)
        | .ok none => .error (.nilHandler name)
        | .ok (some h) =>
          match loadChain reg rest with
          | .error e => .error e
          | .ok hs => .ok (h :: hs) := rfl

theorem loadChain_cons_ok {H : Type} (reg : Registry H) (name : String) (args : List String)
    (rest : List (String × List String)) (hs : List H) :
    loadChain reg ((name, args) :: rest) = .ok hs ↔
      (reg name = some none ∧ loadChain reg rest = .ok hs) ∨
      ∃ f h hs', reg name = some (some f) ∧ f args = .ok (some h) ∧ loadChain reg rest = .ok hs' ∧ hs = h :: hs' := by
  rw [loadChain_cons]
  constructor
  · cases reg name with
    | none => nofun
    | some o =>
      cases o with
      | none => exact fun h => .inl ⟨rfl, h⟩
      | some f =>
        dsimp only
        cases hf : f args with
        | error e => nofun
        | ok oh =>
          cases oh with
          | none => nofun
          | some x =>
            dsimp only
            cases loadChain reg rest with
            | error e => nofun
            | ok hs' => exact fun h => .inr ⟨f, x, hs', rfl, hf, rfl, (Except.ok.inj h).symm⟩
  · rintro (⟨hr, hl⟩ | ⟨f, h, hs', hr, hf, hl, rfl⟩)
    · rw [hr]; exact hl
    · simp only [hr, hf, hl]

/-- `conf.ServerN == nil`: nothing to load -/
def Gen6.chainOf {H : Type} (reg : Registry H) : Option (List (String × List String)) → Except LoadErr (List H)
  | some ps => loadChain reg ps
  | none => .ok []

theorem loadPlugins_chainOf {H4 H6 : Type} (reg4 : Registry H4) (reg6 : Registry H6)
    (s4 s6 : Option (List (String × List String))) :
    loadPlugins reg4 reg6 s4 s6 =
      if s4.isNone && s6.isNone then .error .noConfig
      else match Gen6.chainOf reg6 s6 with
        | .error e => .error e
        | .ok h6 => match Gen6.chainOf reg4 s4 with
          | .error e => .error e
          | .ok h4 => .ok (h4, h6) := by
  cases s4 <;> cases s6 <;> rfl

theorem loadPlugins_ok {H4 H6 : Type} (r4 : Registry H4) (r6 : Registry H6)
    (s4 s6 : Option (List (String × List String))) (h4 : List H4) (h6 : List H6)
    (h : loadPlugins r4 r6 s4 s6 = .ok (h4, h6)) :
    Gen6.chainOf r4 s4 = .ok h4 ∧ Gen6.chainOf r6 s6 = .ok h6 := by
  rw [loadPlugins_chainOf] at h
  split at h
  · cases h
  · split at h
    · cases h
    · next h6' =>
      split at h
      · cases h
      · next h4' => cases h; exact ⟨h4', h6'⟩

theorem loadPlugins_error {H4 H6 : Type} (r4 : Registry H4) (r6 : Registry H6)
    (s4 s6 : Option (List (String × List String)))
    (h : (∃ err, Gen6.chainOf r4 s4 = .error err) ∨ (∃ err, Gen6.chainOf r6 s6 = .error err)) :
    ∃ err, loadPlugins r4 r6 s4 s6 = .error err := by
  rw [loadPlugins_chainOf]
  split
  · exact ⟨_, rfl⟩
  · split
    · next e _ => exact ⟨e, rfl⟩
    · next x6 h6 =>
      rcases h with ⟨err, he⟩ | ⟨err, he⟩
      · rw [he]; exact ⟨err, rfl⟩
      · cases h6.symm.trans he
end CoreDhcp
