/- Small lemmas about lists, options and Booleans that mention no model. -/
namespace CoreDhcp

theorem all_of_all_imp {α : Type} {l : List α} {p q : α → Bool}
    (h : l.all p = true) (hpq : ∀ x, p x = true → q x = true) : l.all q = true := by
  rw [List.all_eq_true] at *
  intro x hx
  exact hpq x (h x hx)

theorem length_filter_bne_of_nodup {α : Type} [BEq α] [LawfulBEq α] {l : List α} (hn : l.Nodup)
    {d : α} (hd : d ∈ l) : (l.filter (· != d)).length + 1 = l.length := by
  rw [← hn.erase_eq_filter, List.length_erase_of_mem hd]
  exact Nat.sub_add_cancel (List.length_pos_of_mem hd)

/-- a run that prepends its event to the events of the rest of the run: inversion -/
theorem map_cons_eq_some {α β : Type} {o : Option (List α × β)} {e : α} {evs : List α} {z : β}
    (h : o.map (fun (x, y) => (e :: x, y)) = some (evs, z)) :
    ∃ evs', evs = e :: evs' ∧ o = some (evs', z) := by
  obtain ⟨⟨x, y⟩, rfl, h⟩ := Option.map_eq_some_iff.1 h
  cases h
  exact ⟨x, rfl, rfl⟩

theorem find?_fst_filter_ne {α β : Type} [BEq α] [LawfulBEq α] (l : List (α × β)) {k k' : α}
    (h : (k == k') = false) :
    (l.filter (fun p => !(p.1 == k))).find? (fun p => p.1 == k') = l.find? (fun p => p.1 == k') := by
  rw [List.find?_filter]
  congr 1
  funext p
  by_cases hp : (p.1 == k') = true
  · have hk : (p.1 == k) = false := by rw [eq_of_beq hp, BEq.comm]; exact h
    simp [hp, hk]
  · simp [hp]

theorem imp_bool (X Y : Bool) (h : X = true → Y = true) : (!X || Y) = true := by
  cases X
  · rfl
  · exact h rfl

theorem eq_some_getD_of_isSome {α : Type} {o : Option α} (h : o.isSome = true) (d : α) : o = some (o.getD d) := by
  cases o with
  | none => cases h
  | some x => rfl

/-- `step`, `run`: the monitor of a stateful plugin (`RMon`, `Mon6`, `Mon4`) -/
theorem not_mem_of_verdicts {σ ε ν : Type} (step : σ → ε → σ × ν) (run : σ → List ε → List ν)
    (hrun : ∀ s ev evs, run s (ev :: evs) = (step s ev).2 :: run (step s ev).1 evs)
    (ok : ν → Bool) (bad : ε) (hbad : ∀ s, ok (step s bad).2 = false) :
    ∀ (s : σ) (evs : List ε), (run s evs).all ok = true → bad ∉ evs := by
  intro s evs
  induction evs generalizing s with
  | nil => intro _ h; cases h
  | cons ev rest ih =>
    intro hall hmem
    rw [hrun, List.all_cons, Bool.and_eq_true] at hall
    cases hmem with
    | head => rw [hbad] at hall; cases hall.1
    | tail _ hm => exact ih _ hall.2 hm

theorem all_not_mem {α : Type} {p : α → Bool} {l : List α} (h : l.all (fun e => !p e) = true) {e : α} (he : e ∈ l) :
    p e = false :=
  (Bool.not_eq_true' _).mp (List.all_eq_true.mp h e he)

theorem findIdx?_split {α : Type} (p : α → Bool) (pre post : List α) (x : α) (hpre : pre.all (fun e => !p e) = true)
    (hx : p x = true) : (pre ++ x :: post).findIdx? p = some pre.length := by
  induction pre with
  | nil => rw [List.nil_append, List.findIdx?_cons, hx]; rfl
  | cons e rest ih =>
    rw [List.all_cons, Bool.and_eq_true, Bool.not_eq_true'] at hpre
    rw [List.cons_append, List.findIdx?_cons, hpre.1, ih hpre.2]
    rfl

/-- a map that changes only elements with `p`, on a list with one of them: only that one is mapped -/
theorem map_split {α : Type} (p : α → Bool) (f : α → α) (hf : ∀ e, p e = false → f e = e) (pre post : List α) (x : α)
    (hpre : pre.all (fun e => !p e) = true) (hpost : post.all (fun e => !p e) = true) :
    (pre ++ x :: post).map f = pre ++ f x :: post := by
  have fix : ∀ l : List α, l.all (fun e => !p e) = true → l.map f = l := fun l hl =>
    (List.map_congr_left fun e he => hf e (all_not_mem hl he)).trans (List.map_id l)
  rw [List.map_append, List.map_cons, fix pre hpre, fix post hpost]

end CoreDhcp
