/-
Lemmas behind Props/ServerState.lean: the equations of `Sys.step4/6`, `Sys.run4/6` and of the projections
of a trace (Model/ServerState.lean), and the chain template `pre ++ .lease x :: post` (`pre ++ .pd x :: post`)
against the chain that runs.
-/
import CoreDhcp.Model.ServerState
import CoreDhcp.Proofs.System6
import CoreDhcp.Proofs.ListLemmas
namespace CoreDhcp
open Sys
open Plug (lookup)

theorem step4_idle (bound : Nat) (oob : Option Nat) (chain : List Elem4) (st : St4) (now : Int) (choice : Option Nat)
    (input : Option Sys.Req4) (h : st.range = none ∨ input = none) :
    step4 bound oob chain st now choice input = some ⟨st, serve4 bound oob chain input, none⟩ := by
  obtain ⟨range⟩ := st
  rcases h with h | rfl
  · cases h; rfl
  · cases range <;> rfl

theorem step4_some (bound : Nat) (oob : Option Nat) (chain : List Elem4) (rs : RState) (now : Int)
    (choice : Option Nat) (req : Sys.Req4) (r : Step4)
    (h : step4 bound oob chain ⟨some rs⟩ now choice (some req) = some r) :
    ∃ rs' rr, rs.handle req.chaddr now choice = some (rs', rr) ∧
      r.out = serve4 bound oob (inst4 (leaseOut rr) chain) (some req) ∧
      ((reached4 chain (inst4 (leaseOut rr) chain) req = true ∧ r.st = ⟨some rs'⟩ ∧
          r.ev = some (.req req.chaddr now rr (rs'.db.filter (fun x => x.mac == req.chaddr)))) ∨
       (reached4 chain (inst4 (leaseOut rr) chain) req = false ∧ r.st = ⟨some rs⟩ ∧ r.ev = none)) := by
  simp only [step4] at h
  split at h
  · cases h
  · next rs' rr hh =>
    refine ⟨rs', rr, hh, ?_⟩
    split at h
    · next hr => cases h; exact ⟨rfl, .inl ⟨hr, rfl, rfl⟩⟩
    · next hr => cases h; exact ⟨rfl, .inr ⟨(Bool.not_eq_true _).mp hr, rfl, rfl⟩⟩

/-- `step4_some` with `out` and `reached4` forgotten and `input = none` folded in: what the inductions over a run need -/
theorem step4_handle (bound : Nat) (oob : Option Nat) (chain : List Elem4) (rs : RState) (now : Int)
    (choice : Option Nat) (input : Option Sys.Req4) (r : Step4)
    (h : step4 bound oob chain ⟨some rs⟩ now choice input = some r) :
    (r.ev = none ∧ r.st = ⟨some rs⟩) ∨
    (∃ req rs' rr, input = some req ∧ rs.handle req.chaddr now choice = some (rs', rr) ∧ r.st = ⟨some rs'⟩ ∧
      r.ev = some (.req req.chaddr now rr (rs'.db.filter (fun x => x.mac == req.chaddr)))) := by
  cases input with
  | none =>
    cases (step4_idle bound oob chain _ now choice none (.inr rfl)).symm.trans h
    exact Or.inl ⟨rfl, rfl⟩
  | some req =>
    obtain ⟨rs', rr, hh, _, hc⟩ := step4_some bound oob chain rs now choice req r h
    rcases hc with ⟨_, h2, h3⟩ | ⟨_, h2, h3⟩
    · exact Or.inr ⟨req, rs', rr, rfl, hh, h2, h3⟩
    · exact Or.inl ⟨h3, h2⟩

theorem run4_cons_some (bound : Nat) (oob : Option Nat) (chain : List Elem4) (st : St4) (d : Dg4) (ds : List Dg4)
    (tr : List Step4) (z : St4) (h : run4 bound oob chain st (d :: ds) = some (tr, z)) :
    ∃ r tr', step4 bound oob chain st d.now d.choice d.input = some r ∧
      run4 bound oob chain r.st ds = some (tr', z) ∧ tr = r :: tr' := by
  rw [run4] at h
  split at h
  · cases h
  · next r hs =>
    obtain ⟨tr', rfl, hr⟩ := map_cons_eq_some h
    exact ⟨r, tr', hs, hr, rfl⟩

theorem run4_mem_step (bound : Nat) (oob : Option Nat) (chain : List Elem4) (s0 : RState) (dgs : List Dg4)
    (tr : List Step4) (z : St4) (h : run4 bound oob chain ⟨some s0⟩ dgs = some (tr, z)) (r : Step4) (hr : r ∈ tr) :
    ∃ rs, ∃ d : Dg4, step4 bound oob chain ⟨some rs⟩ d.now d.choice d.input = some r := by
  induction dgs generalizing s0 tr with
  | nil => cases h; cases hr
  | cons d ds ih =>
    obtain ⟨r', tr', hs, hrun, rfl⟩ := run4_cons_some bound oob chain _ d ds tr z h
    rcases List.mem_cons.mp hr with rfl | hr'
    · exact ⟨s0, d, hs⟩
    · rcases step4_handle bound oob chain s0 d.now d.choice d.input r' hs with ⟨_, hst⟩ | ⟨_, rs', _, _, _, hst, _⟩
      · rw [hst] at hrun
        exact ih s0 tr' hrun hr'
      · rw [hst] at hrun
        exact ih rs' tr' hrun hr'

theorem projEvs_cons_none (r : Step4) (tr : List Step4) (h : r.ev = none) : projEvs (r :: tr) = projEvs tr :=
  List.filterMap_cons_none h

theorem projEvs_cons_some (r : Step4) (tr : List Step4) (ev : REv) (h : r.ev = some ev) :
    projEvs (r :: tr) = ev :: projEvs tr :=
  List.filterMap_cons_some h

theorem projOps_cons_none (r : Step4) (tr : List Step4) (h : r.ev = none) : projOps (r :: tr) = projOps tr :=
  congrArg (List.map opOfEv) (List.filterMap_cons_none h)

theorem projOps_cons_some (r : Step4) (tr : List Step4) (ev : REv) (h : r.ev = some ev) :
    projOps (r :: tr) = opOfEv ev :: projOps tr :=
  congrArg (List.map opOfEv) (List.filterMap_cons_some h)

theorem projChoices_cons_none (d : Dg4) (ds : List Dg4) (r : Step4) (tr : List Step4) (h : r.ev = none) :
    projChoices (d :: ds) (r :: tr) = projChoices ds tr := by
  rw [projChoices, h]
  rfl

theorem projChoices_cons_some (d : Dg4) (ds : List Dg4) (r : Step4) (tr : List Step4) (ev : REv) (h : r.ev = some ev) :
    projChoices (d :: ds) (r :: tr) = d.choice :: projChoices ds tr := by
  rw [projChoices, h]
  rfl

theorem neverStops4_notLease (l : List Elem4) (h : l.all neverStops4 = true) : l.all (fun e => !isLease e) = true :=
  all_of_all_imp h fun e he => by
    cases e with
    | lease o => cases he
    | _ => rfl

theorem inst4_split (out x : Option (BitVec 32 × Nat)) (pre post : List Elem4)
    (hpre : pre.all neverStops4 = true) (hpost : post.all (fun e => !isLease e) = true) :
    inst4 out (pre ++ .lease x :: post) = pre ++ .lease out :: post :=
  map_split isLease _ (fun e he => by
    cases e with
    | lease o => cases he
    | _ => rfl) pre post (.lease x) (neverStops4_notLease pre hpre) hpost

theorem reached4_of_pre (out x : Option (BitVec 32 × Nat)) (pre post : List Elem4)
    (hpre : pre.all neverStops4 = true) (req : Sys.Req4) (r0 : Sys.Resp4) (h0 : Sys.stub4 req = some r0) :
    reached4 (pre ++ .lease x :: post) (pre ++ .lease out :: post) req = true := by
  obtain ⟨_, _, _, hlog⟩ := chain_through handle4 req pre (neverStops4_all pre hpre req) r0
  simp only [reached4, h0, leasePos, findIdx?_split isLease pre post (.lease x) (neverStops4_notLease pre hpre) rfl,
    Option.getD_some]
  exact hlog _ post

theorem step6_idle (bound : Nat) (oob : Option Nat) (chain : List Elem6) (st : St6) (d : Dg6) (cs : List (Option Nat))
    (h : st.pfx = none ∨ d.input = none) :
    step6 bound oob chain st d cs = some ⟨st, serve6 bound oob d.src chain d.input, none, cs⟩ := by
  obtain ⟨pfx⟩ := st
  rcases h with h | h
  · cases h; rfl
  · rw [step6, h]
    cases pfx <;> rfl

theorem opOfDg6_client (d : Dg6) (pkt : Sys.Pkt6) (hin : d.input = some pkt) : (opOfDg6 d).client = clientOf pkt := by
  rw [opOfDg6, hin, Option.bind_some]

theorem step6_some (bound : Nat) (oob : Option Nat) (chain : List Elem6) (ps : PState) (d : Dg6) (pkt : Sys.Pkt6)
    (hin : d.input = some pkt) (cs : List (Option Nat)) (r : Step6)
    (h : step6 bound oob chain ⟨some ps⟩ d cs = some r) :
    ∃ ps' resp cs', ps.handleMsg (clientOf pkt) d.iapds d.now cs = some (ps', resp, cs') ∧
      r.out = serve6 bound oob d.src (inst6 (pdOut resp) chain) (some pkt) ∧
      ((reached6 chain (inst6 (pdOut resp) chain) pkt = true ∧ r.st = ⟨some ps'⟩ ∧ r.cs = cs' ∧
          r.ev = some ⟨clientOf pkt, d.iapds, d.now, d.now, resp⟩) ∨
       (reached6 chain (inst6 (pdOut resp) chain) pkt = false ∧ r.st = ⟨some ps⟩ ∧ r.cs = cs ∧ r.ev = none)) := by
  simp only [step6, hin] at h
  split at h
  · cases h
  · next ps' resp cs' hh =>
    refine ⟨ps', resp, cs', hh, ?_⟩
    split at h
    · next hr => cases h; exact ⟨rfl, .inl ⟨hr, rfl, rfl, rfl⟩⟩
    · next hr => cases h; exact ⟨rfl, .inr ⟨(Bool.not_eq_true _).mp hr, rfl, rfl, rfl⟩⟩

/-- `step6_some` with `out` and `reached6` forgotten and `d.input = none` folded in -/
theorem step6_handle (bound : Nat) (oob : Option Nat) (chain : List Elem6) (ps : PState) (d : Dg6)
    (cs : List (Option Nat)) (r : Step6)
    (h : step6 bound oob chain ⟨some ps⟩ d cs = some r) :
    (r.ev = none ∧ r.st = ⟨some ps⟩ ∧ r.cs = cs) ∨
    (∃ ps' resp cs', ps.handleMsg (opOfDg6 d).client d.iapds d.now cs = some (ps', resp, cs') ∧ r.st = ⟨some ps'⟩ ∧
      r.cs = cs' ∧ r.ev = some ⟨(opOfDg6 d).client, d.iapds, d.now, d.now, resp⟩) := by
  cases hin : d.input with
  | none =>
    cases (step6_idle bound oob chain _ d cs (.inr hin)).symm.trans h
    exact Or.inl ⟨rfl, rfl, rfl⟩
  | some pkt =>
    have hcl := opOfDg6_client d pkt hin
    obtain ⟨ps', resp, cs', hh, _, hc⟩ := step6_some bound oob chain ps d pkt hin cs r h
    rcases hc with ⟨_, h2, h3, h4⟩ | ⟨_, h2, h3, h4⟩
    · exact Or.inr ⟨ps', resp, cs', hcl ▸ hh, h2, h3, hcl ▸ h4⟩
    · exact Or.inl ⟨h4, h2, h3⟩

theorem run6_cons_some (bound : Nat) (oob : Option Nat) (chain : List Elem6) (st : St6) (d : Dg6) (ds : List Dg6)
    (cs : List (Option Nat)) (tr : List Step6) (z : St6) (h : run6 bound oob chain st (d :: ds) cs = some (tr, z)) :
    ∃ r tr', step6 bound oob chain st d cs = some r ∧ run6 bound oob chain r.st ds r.cs = some (tr', z) ∧ tr = r :: tr' := by
  rw [run6] at h
  split at h
  · cases h
  · next r hs =>
    obtain ⟨tr', rfl, hr⟩ := map_cons_eq_some h
    exact ⟨r, tr', hs, hr, rfl⟩

theorem projEvs6_cons_none (r : Step6) (tr : List Step6) (h : r.ev = none) : projEvs6 (r :: tr) = projEvs6 tr :=
  List.filterMap_cons_none h

theorem projEvs6_cons_some (r : Step6) (tr : List Step6) (ev : PEv) (h : r.ev = some ev) :
    projEvs6 (r :: tr) = ev :: projEvs6 tr :=
  List.filterMap_cons_some h

theorem projOps6_cons_none (r : Step6) (tr : List Step6) (h : r.ev = none) : projOps6 (r :: tr) = projOps6 tr :=
  congrArg (List.map opOfEv6) (List.filterMap_cons_none h)

theorem projOps6_cons_some (r : Step6) (tr : List Step6) (ev : PEv) (h : r.ev = some ev) :
    projOps6 (r :: tr) = opOfEv6 ev :: projOps6 tr :=
  congrArg (List.map opOfEv6) (List.filterMap_cons_some h)

theorem neverStops6_notPd (l : List Elem6) (h : l.all neverStops6 = true) : l.all (fun e => !isPd e) = true :=
  all_of_all_imp h fun e he => by
    cases e with
    | pd o => cases he
    | _ => rfl

theorem inst6_split (out x : List PdAns) (pre post : List Elem6)
    (hpre : pre.all neverStops6 = true) (hpost : post.all (fun e => !isPd e) = true) :
    inst6 out (pre ++ .pd x :: post) = pre ++ .pd out :: post :=
  map_split isPd _ (fun e he => by
    cases e with
    | pd o => cases he
    | _ => rfl) pre post (.pd x) (neverStops6_notPd pre hpre) hpost

theorem reached6_of_pre (out x : List PdAns) (pre post : List Elem6) (hpre : pre.all neverStops6 = true)
    (pkt : Sys.Pkt6) (m : Sys.Msg6) (r0 : Sys.Resp6) (hm : pkt.msg = some m) (h0 : Sys.stub6 m = some r0) :
    reached6 (pre ++ .pd x :: post) (pre ++ .pd out :: post) pkt = true := by
  obtain ⟨_, _, _, hlog⟩ := chain_through handle6 pkt pre (neverStops6_all pre hpre pkt m hm) r0
  simp only [reached6, hm, Option.bind_some, h0, pdPos,
    findIdx?_split isPd pre post (.pd x) (neverStops6_notPd pre hpre) rfl, Option.getD_some]
  exact hlog _ post

end CoreDhcp
