/-
Lemmas about `Sys.serve6` (Model/System.lean), behind the DHCPv6 part of Props/System.lean and of
Proofs/ServerState.lean, Props/ServerState.lean: what an element leaves alone, `serve6` around the chain and the
element reached in it (`serve6_reach`), and the decoder of the IA_PD encoding one step at a time (the round trip
itself is `SYS_pd_roundtrip` in Props/System.lean).
-/
import CoreDhcp.Proofs.System
namespace CoreDhcp
open Sys
open Plug (Bytes Opts lookup upd6)

/-- the option codes a DHCPv6 element may add, replace or remove in the reply -/
def Sys.owned6 : Elem6 → List Nat
  | .plug (.dns _) => [23] | .plug (.search _) => [24] | .plug (.nbp _) => [59, 60]
  | .plug (.sleep _) => [] | .plug (.serverid _) => [2] | .file _ => [3] | .pd _ => [25]

theorem handle6_none (e : Elem6) (d : Sys.Pkt6) : handle6 e d none = (none, true) := by
  cases e <;> rfl

theorem handle6_plug (c : Plug.Cfg6) (d : Sys.Pkt6) (r : Sys.Resp6) :
    handle6 (.plug c) d (some r) =
      match d.msg with
      | none => (none, true)
      | some m =>
        match Plug.plugHandle6 c ⟨d.layers.length, m.mt, m.opts⟩ ⟨r.mt, r.opts⟩ with
        | (none, stop) => (none, stop)
        | (some p, stop) => (some { r with mt := p.mt, opts := p.opts }, stop) := rfl

theorem handle6_file (t : FTable) (d : Sys.Pkt6) (r : Sys.Resp6) :
    handle6 (.file t) d (some r) =
      match d.msg with
      | none => (none, true)
      | some m =>
        match lookup 3 m.opts with
        | none => (some r, false)
        | some ia =>
          match d.mac with
          | none => (some r, false)
          | some mac =>
            match t.get mac with
            | some (.v6 a) => (some { r with opts := r.opts ++ [(3, encIANA (ia.take 4) a)] }, false)
            | _ => (some r, false) := rfl

theorem handle6_pd (out : List PdAns) (d : Sys.Pkt6) (r : Sys.Resp6) :
    handle6 (.pd out) d (some r) =
      match d.msg with
      | none => (none, true)
      | some m =>
        match lookup 1 m.opts with
        | none => (none, true)
        | some _ => (some { r with opts := r.opts ++ out.map (fun a => (25, encIAPD a)) }, false) := rfl

theorem handle6_plug_some (c : Plug.Cfg6) (d : Sys.Pkt6) (r x : Sys.Resp6)
    (h : (handle6 (.plug c) d (some r)).1 = some x) :
    ∃ m p stop, d.msg = some m ∧ Plug.plugHandle6 c ⟨d.layers.length, m.mt, m.opts⟩ ⟨r.mt, r.opts⟩ = (some p, stop) ∧
      x = { r with mt := p.mt, opts := p.opts } := by
  rw [handle6_plug] at h
  split at h
  · cases h
  · next m hm =>
    split at h
    · cases h
    · next p stop hp => cases h; exact ⟨m, p, stop, hm, hp, rfl⟩

theorem handle6_pd_some (out : List PdAns) (d : Sys.Pkt6) (r x : Sys.Resp6)
    (h : (handle6 (.pd out) d (some r)).1 = some x) :
    x = { r with opts := r.opts ++ out.map (fun a => (25, encIAPD a)) } := by
  rw [handle6_pd] at h
  split at h
  · cases h
  · split at h
    · cases h
    · cases h; rfl

theorem filter_append_other (c : Nat) (l l' : Opts) (h : ∀ o ∈ l', o.1 ≠ c) :
    (l ++ l').filter (fun o => o.1 == c) = l.filter (fun o => o.1 == c) := by
  have : l'.filter (fun o => o.1 == c) = [] := List.filter_eq_nil_iff.mpr (fun o ho => by simpa using h o ho)
  rw [List.filter_append, this, List.append_nil]

theorem lookup_of_filter (c : Nat) (l l' : Opts)
    (h : l.filter (fun o => o.1 == c) = l'.filter (fun o => o.1 == c)) : lookup c l = lookup c l' := by
  have := congrArg List.head? h
  rw [head_filter_lookup, head_filter_lookup] at this
  exact Option.map_injective (fun _ _ e => (Prod.mk.inj e).2) this

theorem owned6_plug (c : Plug.Cfg6) : owned6 (.plug c) = Plug.writes6 c := by cases c <;> rfl

theorem neverStops6_plug (c : Plug.Cfg6) : neverStops6 (.plug c) = !Plug.stops6 c := by cases c <;> rfl

/-- What an element may change of the response `r` it is handed: not the message type, not the transaction id, and
of the options only those of the codes it owns. -/
structure Sys.Within6 (e : Elem6) (r x : Sys.Resp6) : Prop where
  mt : x.mt = r.mt
  xid : x.xid = r.xid
  opts {c : Nat} : c ∉ owned6 e → x.opts.filter (fun o => o.1 == c) = r.opts.filter (fun o => o.1 == c)

theorem Sys.Within6.refl (e : Elem6) (r : Sys.Resp6) : Sys.Within6 e r r := ⟨rfl, rfl, fun _ => rfl⟩

theorem Sys.Within6.append (e : Elem6) (r : Sys.Resp6) (l : Opts) (h : ∀ o ∈ l, o.1 ∈ owned6 e) :
    Sys.Within6 e r { r with opts := r.opts ++ l } :=
  ⟨rfl, rfl, fun hc => filter_append_other _ r.opts l fun o ho hoc => hc (hoc ▸ h o ho)⟩

/-- `plugHandle6_frame` for the elements of the chain: an element hands no response on and ends the chain, or hands on
`r` changed within its limits; one for which `neverStops6` holds, given a datagram with a message, does the latter and
goes on. -/
theorem handle6_frame (e : Elem6) (d : Sys.Pkt6) (r : Sys.Resp6) :
    HandlerFrame (Sys.Within6 e r) (d.msg.isNone || !neverStops6 e) (handle6 e d (some r)) := by
  cases hm : d.msg with
  | none =>
    cases e
    all_goals
      simp only [handle6_plug, handle6_file, handle6_pd, hm]
      exact .drop
  | some m =>
    cases e with
    | plug c =>
      have hf := plugHandle6_frame c ⟨d.layers.length, m.mt, m.opts⟩ ⟨r.mt, r.opts⟩
      rw [handle6_plug, hm, neverStops6_plug, Bool.not_not]
      dsimp only
      cases hp : Plug.plugHandle6 c ⟨d.layers.length, m.mt, m.opts⟩ ⟨r.mt, r.opts⟩ with
      | mk o stop =>
        rw [hp] at hf
        cases o with
        | none => exact hf
        | some p => exact ⟨⟨hf.1.mt, rfl, fun hc => hf.1.opts (owned6_plug c ▸ hc)⟩, hf.2⟩
    | file t =>
      rw [handle6_file, hm]
      dsimp only
      cases lookup 3 m.opts with
      | none => exact .go (.refl _ r)
      | some ia =>
        cases d.mac with
        | none => exact .go (.refl _ r)
        | some mac =>
          dsimp only
          split
          · exact .go (.append _ r _ fun o ho => List.mem_singleton.mp ho ▸ List.mem_singleton_self 3)
          · exact .go (.refl _ r)
    | pd out =>
      rw [handle6_pd, hm]
      dsimp only
      split
      · exact .drop
      · refine .go (.append _ r _ fun o ho => ?_)
        obtain ⟨a, _, rfl⟩ := List.mem_map.mp ho
        exact List.mem_singleton_self 25

theorem handle6_within (e : Elem6) (d : Sys.Pkt6) (r x : Sys.Resp6) (h : (handle6 e d (some r)).1 = some x) :
    Sys.Within6 e r x :=
  (handle6_frame e d r).of_some (Prod.ext h rfl)

theorem neverStops6_continues (e : Elem6) (he : neverStops6 e = true) (d : Sys.Pkt6) (m : Sys.Msg6) (hm : d.msg = some m)
    (r : Sys.Resp6) : ∃ r', handle6 e d (some r) = (some r', false) := by
  have hf := handle6_frame e d r
  rw [hm, he] at hf
  exact hf.exists_some

theorem chain6_frame (chain : List Elem6) (d : Sys.Pkt6) (r0 resp : Sys.Resp6)
    (hrun : (runChain (chain.map handle6) d 0 (some r0)).1 = some resp) (c : Nat)
    (hc : ∀ e ∈ chain, c ∉ owned6 e) :
    resp.opts.filter (fun o => o.1 == c) = r0.opts.filter (fun o => o.1 == c) := by
  refine chain_induct handle6 handle6_none
    (fun x => x.opts.filter (fun o => o.1 == c) = r0.opts.filter (fun o => o.1 == c)) chain d ?_ r0 resp rfl hrun
  intro e he y x hy hx
  exact ((handle6_within e d y x hx).opts (hc e he)).trans hy

theorem chain6_mt_xid (chain : List Elem6) (d : Sys.Pkt6) (r0 resp : Sys.Resp6)
    (hrun : (runChain (chain.map handle6) d 0 (some r0)).1 = some resp) : resp.mt = r0.mt ∧ resp.xid = r0.xid := by
  refine chain_induct handle6 handle6_none (fun x => x.mt = r0.mt ∧ x.xid = r0.xid) chain d ?_ r0 resp ⟨rfl, rfl⟩ hrun
  intro e _ y x hy hx
  have hw := handle6_within e d y x hx
  exact ⟨hw.mt.trans hy.1, hw.xid.trans hy.2⟩

/-- `owned6` read by code: nobody owns Client-ID (1) and Rapid Commit (14); only `prefix` owns 25; only `server_id` owns 2 -/
theorem owned6_table (e : Elem6) :
    (1 ∉ owned6 e ∧ 14 ∉ owned6 e) ∧ (isPd e = false → 25 ∉ owned6 e) ∧
    ((match e with | .plug (.serverid _) => false | _ => true) = true → 2 ∉ owned6 e) := by
  cases e with
  | file t => simp [owned6]
  | pd o => simp [owned6, isPd]
  | plug c => cases c <;> simp [owned6]

theorem not_owned_cid (e : Elem6) : 1 ∉ owned6 e ∧ 14 ∉ owned6 e := (owned6_table e).1

theorem not_pd_owned (e : Elem6) (h : isPd e = false) : 25 ∉ owned6 e := (owned6_table e).2.1 h

theorem not_serverid_2 (e : Elem6) (h : (match e with | .plug (.serverid _) => false | _ => true) = true) :
    2 ∉ owned6 e := (owned6_table e).2.2 h

theorem go_handle6_none (d : Sys.Pkt6) (l : List Elem6) (i : Nat) :
    (runChain.go d (l.map handle6) i none).1 = none := by
  cases l with
  | nil => rfl
  | cons e rest => exact go_cons_stop d _ _ i none none (handle6_none e d)

theorem neverStops6_all (pre : List Elem6) (hpre : pre.all neverStops6 = true) (d : Sys.Pkt6) (m : Sys.Msg6)
    (hm : d.msg = some m) : ∀ e ∈ pre, ∀ r, ∃ r', handle6 e d (some r) = (some r', false) :=
  fun e he => neverStops6_continues e (List.all_eq_true.mp hpre e he) d m hm

theorem stub6_abs (m : Sys.Msg6) : CoreDhcp.stub6 (absMsg6 m) = (Sys.stub6 m).map absResp6 := by
  unfold CoreDhcp.stub6 Sys.stub6 absMsg6
  -- same guards in both texts: `Option.map absResp6` passes the `if`s, and at the leaves `absResp6` computes
  cases lookup 1 m.opts with
  | none => rfl
  | some c =>
    simp only [apply_ite (Option.map absResp6), Option.map_some, Option.map_none]
    rfl

theorem stub6_opts (m : Sys.Msg6) (r0 : Sys.Resp6) (h0 : Sys.stub6 m = some r0) :
    ∃ c, lookup 1 m.opts = some c ∧ (r0.opts = [(1, c)] ∨ r0.opts = [(1, c), (14, [])]) := by
  unfold Sys.stub6 at h0
  split at h0
  · cases h0
  · next c h1 =>
    refine ⟨c, h1, ?_⟩
    by_cases hm : m.mt = 1
    · rw [if_pos hm] at h0
      split at h0
      · cases h0; exact .inr rfl
      · cases h0; exact .inl rfl
    · rw [if_neg hm] at h0
      split at h0
      · cases h0; exact .inl rfl
      · cases h0

theorem stub6_no_code (m : Sys.Msg6) (r0 : Sys.Resp6) (h0 : Sys.stub6 m = some r0) (c : Nat) (h1 : c ≠ 1) (h14 : c ≠ 14) :
    r0.opts.filter (fun o => o.1 == c) = [] := by
  obtain ⟨cid, _, hr | hr⟩ := stub6_opts m r0 h0
  · simp [hr, Ne.symm h1]
  · simp [hr, Ne.symm h1, Ne.symm h14]

theorem serve6_drop (bound : Nat) (oob : Option Nat) (src : Addr) (pre post : List Elem6) (e : Elem6) (d : Sys.Pkt6)
    (m : Sys.Msg6) (hm : d.msg = some m) (hpre : pre.all neverStops6 = true)
    (he : ∀ mid, (handle6 e d (some mid)).1 = none) : serve6 bound oob src (pre ++ e :: post) (some d) = .drop := by
  cases h0 : Sys.stub6 m with
  | none => simp only [serve6, hm, h0]
  | some r0 =>
    simp only [serve6, hm, h0, chain_drop handle6 handle6_none d pre post e (neverStops6_all pre hpre d m hm) r0 he]

theorem serve6_send (bound : Nat) (oob : Option Nat) (src : Addr) (chain : List Elem6) (d : Sys.Pkt6)
    (layers : List Layer6) (resp : Sys.Resp6) (ifidx : Option Nat)
    (h : serve6 bound oob src chain (some d) = .send layers resp ifidx) :
    ∃ m r0, d.msg = some m ∧ Sys.stub6 m = some r0 ∧
      (runChain (chain.map handle6) d 0 (some r0)).1 = some resp ∧
      layers = mirror d.layers ∧ ifidx = (if isLinkLocal6 src then pin bound oob else none) := by
  unfold serve6 at h
  dsimp only at h
  split at h
  · cases h
  · next m hm =>
    split at h
    · cases h
    · next r0 h0 =>
      split at h
      · cases h
      · next hc =>
        cases hl : d.layers with
        | nil =>
          rw [hl] at h
          cases h
          exact ⟨m, r0, hm, h0, hc, rfl, rfl⟩
        | cons l rest =>
          rw [hl] at h
          dsimp only at h
          by_cases h12 : l.mt ≠ 12
          · rw [if_pos h12] at h; cases h
          · rw [if_neg h12] at h
            cases h
            exact ⟨m, r0, hm, h0, hc, rfl, rfl⟩

theorem serve6_reach (bound : Nat) (oob : Option Nat) (src : Addr) (pre post : List Elem6) (e : Elem6) (d : Sys.Pkt6)
    (hpre : pre.all neverStops6 = true) (layers : List Layer6) (resp : Sys.Resp6) (ifidx : Option Nat)
    (hs : serve6 bound oob src (pre ++ e :: post) (some d) = .send layers resp ifidx) :
    ∃ m r0 mid x, d.msg = some m ∧ Sys.stub6 m = some r0 ∧ (runChain (pre.map handle6) d 0 (some r0)).1 = some mid ∧
      (handle6 e d (some mid)).1 = some x ∧
      ∀ P : Sys.Resp6 → Prop, P x → (∀ e' ∈ post, ∀ r y, P r → (handle6 e' d (some r)).1 = some y → P y) → P resp := by
  obtain ⟨m, r0, hm, h0, hc, _⟩ := serve6_send bound oob src _ d layers resp ifidx hs
  obtain ⟨mid, x, h⟩ := chain_reach handle6 handle6_none d pre post e (neverStops6_all pre hpre d m hm) r0 resp hc
  exact ⟨m, r0, mid, x, hm, h0, h⟩

theorem be16_eq (a : Addr) : be16 a = Plug.be 8 a.hi.toNat ++ Plug.be 8 a.lo.toNat := rfl

theorem beNat_be (k n : Nat) (h : n < 256 ^ k) : beNat (Plug.be k n) = n := Plug.ofBe_be_of_lt k n h

theorem addrOfBe16_be16 (a : Addr) : addrOfBe16 (be16 a) = a := by
  rw [addrOfBe16, be16_eq, List.take_left' (Plug.be_length 8 _), List.drop_left' (Plug.be_length 8 _),
    List.take_of_length_le (Nat.le_of_eq (Plug.be_length 8 _)), beNat_be 8 _ a.hi.isLt, beNat_be 8 _ a.lo.isLt,
    BitVec.ofNat_toNat, BitVec.ofNat_toNat, BitVec.setWidth_eq, BitVec.setWidth_eq]

theorem decPdSubs_nil (fuel : Nat) : decPdSubs (fuel + 1) [] = some [] := rfl

theorem decPdSubs_tlv (fuel c1 c0 l1 l0 : Nat) (body tail : Bytes) (hl : body.length = l1 * 256 + l0) :
    decPdSubs (fuel + 1) (c1 :: c0 :: l1 :: l0 :: (body ++ tail)) =
      if c1 * 256 + c0 = 26 then
        if l1 * 256 + l0 ≠ 25 then none
        else match decPdSubs fuel tail with
          | none => none
          | some ps => some ((⟨addrOfBe16 (body.drop 9), body.getD 8 0⟩, beNat ((body.drop 4).take 4)) :: ps)
      else if c1 * 256 + c0 = 13 then decPdSubs fuel tail else none := by
  have hlen : ¬ (body ++ tail).length < l1 * 256 + l0 := by
    rw [List.length_append, hl]; exact Nat.not_lt.mpr (Nat.le_add_right _ _)
  rw [decPdSubs, if_neg hlen, ← hl, List.take_left, List.drop_left]
  rfl

theorem decPdSubs_prefix (fuel : Nat) (b : Block) (life : Nat) (hl : life < 2 ^ 32) (tail : Bytes) :
    decPdSubs (fuel + 1) (encIAPrefix b life ++ tail) = (decPdSubs fuel tail).map (fun ps => (b, life) :: ps) := by
  have hb : encIAPrefix b life ++ tail =
      0 :: 26 :: 0 :: 25 :: ((Plug.be 4 life ++ Plug.be 4 life ++ [b.len] ++ be16 b.base) ++ tail) := by
    simp [encIAPrefix]
  have hlen : (Plug.be 4 life ++ Plug.be 4 life ++ [b.len] ++ be16 b.base).length = 0 * 256 + 25 := by
    simp [Plug.be_length, be16]
  rw [hb, decPdSubs_tlv fuel 0 26 0 25 _ tail hlen, if_pos rfl, if_neg (by decide)]
  -- give `be 4 life` a spine of four opaque bytes: `drop 9`, `getD 8`, `take 4` then compute without touching the divisions
  obtain ⟨x0, x1, x2, x3, hx⟩ : ∃ x0 x1 x2 x3, Plug.be 4 life = [x0, x1, x2, x3] := ⟨_, _, _, _, rfl⟩
  have hbody : ((⟨addrOfBe16 ((Plug.be 4 life ++ Plug.be 4 life ++ [b.len] ++ be16 b.base).drop 9),
      (Plug.be 4 life ++ Plug.be 4 life ++ [b.len] ++ be16 b.base).getD 8 0⟩ : Block),
      beNat (((Plug.be 4 life ++ Plug.be 4 life ++ [b.len] ++ be16 b.base).drop 4).take 4)) = (b, life) := by
    rw [hx]
    show ((⟨addrOfBe16 (be16 b.base), b.len⟩ : Block), beNat [x0, x1, x2, x3]) = _
    rw [addrOfBe16_be16, ← hx, beNat_be 4 life hl]
  rw [hbody]
  cases decPdSubs fuel tail <;> rfl

theorem decPdSubs_prefixes (ps : List (Block × Nat)) (hb : ∀ p ∈ ps, p.2 < 2 ^ 32) :
    ∀ fuel, (ps.flatMap (fun p => encIAPrefix p.1 p.2)).length < fuel →
      decPdSubs fuel (ps.flatMap (fun p => encIAPrefix p.1 p.2)) = some ps :=
  decode_items decPdSubs (fun p => encIAPrefix p.1 p.2) (·.2 < 2 ^ 32) 1
    (fun fuel hf => Nat.sub_add_cancel hf ▸ decPdSubs_nil (fuel - 1))
    (fun _ _ => List.cons_ne_nil _ _) (fun p hp fuel tail => decPdSubs_prefix fuel p.1 p.2 hp tail) ps hb

/-- an IA_PD body: a four-byte IAID, eight bytes T1 and T2, then the sub-options -/
theorem decIAPD_body (iaid z t : Bytes) (hi : iaid.length = 4) (hz : z.length = 8) :
    decIAPD (iaid ++ z ++ t) = (decPdSubs (12 + t.length) t).map (fun ps => ⟨iaid, ps⟩) := by
  have h12 : (iaid ++ z).length = 12 := by rw [List.length_append, hi, hz]
  have hd : (iaid ++ z ++ t).drop 12 = t := by rw [← h12, List.drop_left]
  have ht : (iaid ++ z ++ t).take 4 = iaid := by rw [List.append_assoc, ← hi, List.take_left]
  rw [decIAPD, hd, ht, List.length_append, h12, if_neg (Nat.not_lt.mpr (Nat.le_add_right _ _))]

end CoreDhcp
