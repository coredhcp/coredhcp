/-
Big-endian byte strings: `Plug.be k v` read back by the left fold `a ↦ a * 256 + b` (which is
`Plug.ofBe` and `Sys.beNat`) is `v mod 256^k`.
-/
import CoreDhcp.Model.OptPlug
namespace CoreDhcp
namespace Plug

theorem be_length (k v : Nat) : (be k v).length = k := by
  induction k with
  | zero => rfl
  | succ k ih => rw [be, List.length_cons, ih]

theorem foldl_be (k v a : Nat) : (be k v).foldl (fun a b => a * 256 + b) a = a * 256 ^ k + v % 256 ^ k := by
  induction k generalizing a with
  | zero => rw [be, List.foldl_nil, Nat.pow_zero, Nat.mod_one, Nat.mul_one, Nat.add_zero]
  | succ k ih =>
    -- `Nat.mod_pow_succ`: `v % 256^(k+1)` is the new byte times `256^k` plus `v % 256^k`; the rest is distributivity
    rw [be, List.foldl_cons, ih, Nat.mod_pow_succ, Nat.pow_succ, Nat.add_mul, Nat.mul_assoc, Nat.mul_comm 256,
      Nat.mul_comm (v / 256 ^ k % 256)]
    omega

theorem ofBe_be (k v : Nat) : ofBe (be k v) = v % 256 ^ k := by
  rw [ofBe, foldl_be, Nat.zero_mul, Nat.zero_add]

theorem ofBe_be_of_lt (k v : Nat) (h : v < 256 ^ k) : ofBe (be k v) = v := by
  rw [ofBe_be, Nat.mod_eq_of_lt h]

theorem be_inj (k v w : Nat) (hv : v < 256 ^ k) (hw : w < 256 ^ k) (h : be k v = be k w) : v = w := by
  rw [← ofBe_be_of_lt k v hv, h, ofBe_be_of_lt k w hw]

end Plug
end CoreDhcp
