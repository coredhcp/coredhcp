/-
Lemmas about the abstract bitset `Bits` (Model/Bits.lean).  A bitset is its length and its `test`
function (`Bits.ext`); `set` and `clear` are described by what they do to `length` and `test`, and
the algebra of the operations follows from that.  `Bits.IsNextClear` is the specification of
`NextClear(i)` (it determines the answer: `IsNextClear.unique`); the list model's `nextClearFrom`
(defined in Model/BitsWords.lean, hence the import) meets it, and so does the word-level one
(Props/BitsWords.lean).  `Bits.Tracks` is what both allocators maintain between their bitmap and
what they have handed out.
-/
import CoreDhcp.Model.BitsWords
import CoreDhcp.Proofs.ListLemmas
namespace CoreDhcp

namespace Bits

theorem test_eq (b : Bits) (i : Nat) : b.test i = b.bits[i]?.getD false :=
  List.getD_eq_getElem?_getD ..

theorem test_of_lt (b : Bits) (i : Nat) (h : i < b.length) : b.test i = b.bits[i]'h := by
  rw [test_eq, List.getElem?_eq_getElem h, Option.getD_some]

theorem test_of_ge (b : Bits) (i : Nat) (h : b.length ≤ i) : b.test i = false := by
  rw [test_eq, List.getElem?_eq_none h, Option.getD_none]

theorem lt_length_of_test (b : Bits) (i : Nat) (h : b.test i = true) : i < b.length :=
  Nat.lt_of_not_le fun hn => Bool.false_ne_true ((test_of_ge b i hn).symm.trans h)

theorem ext {b c : Bits} (hl : b.length = c.length) (ht : ∀ i, i < b.length → b.test i = c.test i) :
    b = c := by
  obtain ⟨l⟩ := b
  obtain ⟨m⟩ := c
  congr 1
  apply List.ext_getElem hl
  intro i h1 h2
  have := ht i h1
  rwa [test_of_lt _ i h1, test_of_lt _ i h2] at this

@[simp] theorem length_new (n : Nat) : (Bits.new n).length = n :=
  List.length_replicate ..

@[simp] theorem test_new (n i : Nat) : (Bits.new n).test i = false := by
  rw [test_eq, Bits.new, List.getElem?_replicate]
  split <;> rfl

@[simp] theorem count_new (n : Nat) : (Bits.new n).count = 0 := by
  simp [Bits.new, Bits.count, List.count_replicate]

theorem length_set (b : Bits) (i : Nat) : (b.set i).length = max b.length (i + 1) := by
  unfold Bits.set Bits.length
  split
  · next h =>
    rw [List.length_set]
    exact (Nat.max_eq_left (Nat.succ_le_of_lt h)).symm
  · next h =>
    have h : b.bits.length ≤ i := Nat.le_of_not_lt h
    simp only [List.length_append, List.length_replicate, List.length_singleton]
    rw [Nat.add_sub_cancel' h, Nat.max_eq_right (Nat.le_succ_of_le h)]

theorem test_set (b : Bits) (i j : Nat) : (b.set i).test j = (decide (j = i) || b.test j) := by
  unfold Bits.set
  split
  · next h =>
    rw [test_eq, test_eq, List.getElem?_set]
    by_cases e : i = j
    · rw [if_pos e, if_pos h, ← e, decide_eq_true rfl]
      rfl
    · rw [if_neg e, decide_eq_false (Ne.symm e), Bool.false_or]
  · next h =>
    -- `i` at or beyond the end: the list is `bits ++ replicate (i - length) false ++ [true]`
    have h : b.bits.length ≤ i := Nat.le_of_not_lt h
    have hl : (b.bits ++ List.replicate (i - b.bits.length) false).length = i := by
      rw [List.length_append, List.length_replicate]
      exact Nat.add_sub_cancel' h
    rw [test_eq, test_eq]
    rcases Nat.lt_trichotomy j i with hj | hj | hj
    · -- `j < i`: in `bits`, or in the padding, which is clear and beyond the old end
      rw [List.getElem?_append_left (hl.symm ▸ hj), decide_eq_false (Nat.ne_of_lt hj), Bool.false_or]
      by_cases hb : j < b.bits.length
      · rw [List.getElem?_append_left hb]
      · have hb : b.bits.length ≤ j := Nat.le_of_not_lt hb
        rw [List.getElem?_append_right hb, List.getElem?_replicate,
          if_pos (Nat.sub_lt_sub_right hb hj), List.getElem?_eq_none hb]
        rfl
    · rw [hj, List.getElem?_append_right (Nat.le_of_eq hl), hl, Nat.sub_self, decide_eq_true rfl]
      rfl
    · have hlen : (b.bits ++ List.replicate (i - b.bits.length) false ++ [true]).length ≤ j := by
        rw [List.length_append, hl, List.length_singleton]
        exact hj
      rw [List.getElem?_eq_none hlen, List.getElem?_eq_none (Nat.le_trans h (Nat.le_of_lt hj)),
        decide_eq_false (Nat.ne_of_gt hj)]
      rfl

@[simp] theorem test_set_self (b : Bits) (i : Nat) : (b.set i).test i = true := by
  rw [test_set, decide_eq_true rfl, Bool.true_or]

theorem test_set_of_ne (b : Bits) (i j : Nat) (h : i ≠ j) : (b.set i).test j = b.test j := by
  rw [test_set, decide_eq_false (Ne.symm h), Bool.false_or]

theorem length_set_of_lt (b : Bits) (i : Nat) (h : i < b.length) : (b.set i).length = b.length := by
  rw [length_set]
  exact Nat.max_eq_left (Nat.succ_le_of_lt h)

theorem length_set_of_ge (b : Bits) (i : Nat) (h : b.length ≤ i) : (b.set i).length = i + 1 := by
  rw [length_set]
  exact Nat.max_eq_right (Nat.le_succ_of_le h)

@[simp] theorem length_clear (b : Bits) (i : Nat) : (b.clear i).length = b.length :=
  List.length_set ..

theorem test_clear (b : Bits) (i j : Nat) : (b.clear i).test j = (!decide (j = i) && b.test j) := by
  rw [test_eq, test_eq, Bits.clear, List.getElem?_set]
  by_cases e : i = j
  · rw [if_pos e, ← e, decide_eq_true rfl]
    by_cases h : i < b.bits.length
    · rw [if_pos h]
      rfl
    · rw [if_neg h, List.getElem?_eq_none (Nat.le_of_not_lt h)]
      rfl
  · rw [if_neg e, decide_eq_false (Ne.symm e)]
    rfl

@[simp] theorem test_clear_self (b : Bits) (i : Nat) : (b.clear i).test i = false := by
  rw [test_clear, decide_eq_true rfl]
  rfl

theorem test_clear_of_ne (b : Bits) (i j : Nat) (h : i ≠ j) : (b.clear i).test j = b.test j := by
  rw [test_clear, decide_eq_false (Ne.symm h)]
  rfl

theorem set_of_test (b : Bits) (i : Nat) (h : b.test i = true) : b.set i = b := by
  apply ext (length_set_of_lt b i (lt_length_of_test b i h))
  intro j _
  rw [test_set]
  by_cases e : j = i
  · rw [e, h, Bool.or_true]
  · rw [decide_eq_false e, Bool.false_or]

theorem clear_of_not_test (b : Bits) (i : Nat) (h : b.test i = false) : b.clear i = b := by
  apply ext (length_clear b i)
  intro j _
  rw [test_clear]
  by_cases e : j = i
  · rw [e, h, Bool.and_false]
  · rw [decide_eq_false e]
    rfl

theorem set_clear_of_not_test (b : Bits) (i : Nat) (hi : i < b.length) (h : b.test i = false) :
    (b.set i).clear i = b := by
  apply ext ((length_clear _ i).trans (length_set_of_lt b i hi))
  intro j _
  rw [test_clear, test_set]
  by_cases e : j = i
  · rw [e, h, decide_eq_true rfl]
    rfl
  · rw [decide_eq_false e]
    rfl

theorem clear_set_of_test (b : Bits) (i : Nat) (h : b.test i = true) :
    (b.clear i).set i = b := by
  have hi : i < (b.clear i).length := by
    rw [length_clear]
    exact lt_length_of_test b i h
  apply ext ((length_set_of_lt _ i hi).trans (length_clear b i))
  intro j _
  rw [test_set, test_clear]
  by_cases e : j = i
  · rw [e, h, decide_eq_true rfl]
    rfl
  · rw [decide_eq_false e]
    rfl

theorem full_iff (b : Bits) : b.full = true ↔ ∀ i < b.length, b.test i = true := by
  rw [Bits.full, List.all_eq_true]
  constructor
  · intro h i hi
    rw [test_of_lt b i hi]
    exact h _ (List.getElem_mem hi)
  · intro h x hx
    obtain ⟨i, hi, rfl⟩ := List.getElem_of_mem hx
    exact test_of_lt b i hi ▸ h i hi

/-- `r` is the right answer to "least clear position ≥ i below n" for the bit function `f`:
`some k` — k is in range, clear, and everything from i up to k is set; `none` — nothing clear
from i up to n. -/
def IsNextClear (f : Nat → Bool) (n i : Nat) : Option Nat → Prop
  | some k => i ≤ k ∧ k < n ∧ f k = false ∧ ∀ j, i ≤ j → j < k → f j = true
  | none => ∀ j, i ≤ j → j < n → f j = true

theorem IsNextClear.unique {f : Nat → Bool} {n i : Nat} {r1 r2 : Option Nat}
    (h1 : IsNextClear f n i r1) (h2 : IsNextClear f n i r2) : r1 = r2 := by
  have none_some : ∀ {k}, IsNextClear f n i none → IsNextClear f n i (some k) → False := by
    intro k h h'
    obtain ⟨a, b, c, -⟩ := h'
    rw [h _ a b] at c
    cases c
  have le : ∀ {k1 k2}, IsNextClear f n i (some k1) → IsNextClear f n i (some k2) → k1 ≤ k2 := by
    intro k1 k2 h1 h2
    obtain ⟨-, -, -, d1⟩ := h1
    obtain ⟨a2, -, c2, -⟩ := h2
    apply Nat.le_of_not_lt
    intro hlt
    rw [d1 _ a2 hlt] at c2
    cases c2
  cases r1 <;> cases r2
  · rfl
  · exact (none_some h1 h2).elim
  · exact (none_some h2 h1).elim
  · exact congrArg some (Nat.le_antisymm (le h1 h2) (le h2 h1))

theorem IsNextClear.lift {f : Nat → Bool} {n i i' : Nat} {r : Option Nat}
    (h : IsNextClear f n i' r) (hi : i ≤ i')
    (hset : ∀ j, i ≤ j → j < i' → j < n → f j = true) : IsNextClear f n i r := by
  cases r with
  | none =>
    intro j h1 h2
    by_cases q : j < i'
    · exact hset j h1 q h2
    · exact h j (Nat.le_of_not_lt q) h2
  | some k =>
    obtain ⟨a, b, c, d⟩ := h
    refine ⟨Nat.le_trans hi a, b, c, ?_⟩
    intro j h1 h2
    by_cases q : j < i'
    · exact hset j h1 q (Nat.lt_trans h2 b)
    · exact d j (Nat.le_of_not_lt q) h2

theorem IsNextClear.congr {f g : Nat → Bool} {n i : Nat} {r : Option Nat}
    (hfg : ∀ j, j < n → f j = g j) (h : IsNextClear f n i r) : IsNextClear g n i r := by
  cases r with
  | none => exact fun j h1 h2 => hfg j h2 ▸ h j h1 h2
  | some k =>
    obtain ⟨a, b, c, d⟩ := h
    exact ⟨a, b, hfg k b ▸ c, fun j h1 h2 => hfg j (Nat.lt_trans h2 b) ▸ d j h1 h2⟩

theorem nextClearFrom_spec (b : Bits) (i : Nat) :
    IsNextClear b.test b.length i (b.nextClearFrom i) := by
  unfold Bits.nextClearFrom
  have hlen : (b.bits.drop i).length = b.length - i := List.length_drop
  have hget : ∀ k (hk : k < (b.bits.drop i).length), (b.bits.drop i)[k] = b.test (i + k) := by
    intro k hk
    rw [List.getElem_drop]
    exact (test_of_lt b (i + k) (Nat.add_lt_of_lt_sub' (hlen ▸ hk))).symm
  cases h : (b.bits.drop i).findIdx? (fun x => !x) with
  | none =>
    rw [List.findIdx?_eq_none_iff] at h
    intro j h1 h2
    have hm := h _ (List.getElem_mem (hlen.symm ▸ Nat.sub_lt_sub_right h1 h2))
    rw [hget, Nat.add_sub_cancel' h1] at hm
    simpa using hm
  | some k =>
    rw [List.findIdx?_eq_some_iff_getElem] at h
    obtain ⟨hk, hp, hlow⟩ := h
    rw [hget, Nat.add_comm] at hp
    have hclr : b.test (k + i) = false := by simpa using hp
    show IsNextClear b.test b.length i (some (k + i))
    refine ⟨Nat.le_add_left .., Nat.add_lt_of_lt_sub (hlen ▸ hk), hclr, fun j h1 h2 => ?_⟩
    have := hlow (j - i) (Nat.sub_lt_right_of_lt_add h1 h2)
    rw [hget, Nat.add_sub_cancel' h1] at this
    simpa using this

theorem nextClearFrom_zero (b : Bits) : b.nextClearFrom 0 = b.nextClear := by
  unfold Bits.nextClearFrom Bits.nextClear
  simp

theorem nextClear_spec (b : Bits) : IsNextClear b.test b.length 0 b.nextClear :=
  nextClearFrom_zero b ▸ nextClearFrom_spec b 0

theorem nextClear_some (b : Bits) (c : Nat) (h : b.nextClear = some c) :
    c < b.length ∧ b.test c = false := by
  have := nextClear_spec b
  rw [h] at this
  exact ⟨this.2.1, this.2.2.1⟩

theorem nextClear_some_min (b : Bits) (c : Nat) (h : b.nextClear = some c) :
    ∀ j < c, b.test j = true := by
  have := nextClear_spec b
  rw [h] at this
  exact fun j hj => this.2.2.2 j (Nat.zero_le j) hj

theorem nextClear_none (b : Bits) (h : b.nextClear = none) : b.full = true := by
  have := nextClear_spec b
  rw [h] at this
  exact (full_iff b).2 fun i hi => this i (Nat.zero_le i) hi

theorem nextClear_eq_none_iff (b : Bits) : b.nextClear = none ↔ b.full = true := by
  refine ⟨nextClear_none b, fun hf => ?_⟩
  cases hn : b.nextClear with
  | none => rfl
  | some c =>
    obtain ⟨hc, ht⟩ := nextClear_some b c hn
    rw [(full_iff b).1 hf c hc] at ht
    cases ht

theorem not_full_of_test_false (b : Bits) (i : Nat) (hi : i < b.length) (h : b.test i = false) :
    b.full = false := by
  cases hf : b.full
  · rfl
  · rw [(full_iff b).1 hf i hi] at h
    cases h

private theorem list_count_set (l : List Bool) (i : Nat) (hi : i < l.length) (v : Bool) :
    (l.set i v).count true + (if l[i] = true then 1 else 0)
      = l.count true + (if v = true then 1 else 0) := by
  induction l generalizing i with
  | nil => simp at hi
  | cons x xs ih =>
    cases i with
    | zero =>
      simp only [List.set_cons_zero, List.count_cons, List.getElem_cons_zero]
      cases x <;> cases v <;> rfl
    | succ k =>
      simp only [List.length_cons, Nat.add_lt_add_iff_right] at hi
      have := ih k hi
      simp only [List.set_cons_succ, List.count_cons, List.getElem_cons_succ]
      omega

theorem count_set_of_not_test (b : Bits) (i : Nat) (hi : i < b.length) (h : b.test i = false) :
    (b.set i).count = b.count + 1 := by
  rw [test_of_lt b i hi] at h
  have := list_count_set b.bits i hi true
  rw [h] at this
  rw [Bits.set, if_pos (show i < b.bits.length from hi)]
  simpa [Bits.count] using this

theorem count_clear_of_test (b : Bits) (i : Nat) (h : b.test i = true) :
    (b.clear i).count + 1 = b.count := by
  have hi := lt_length_of_test b i h
  rw [test_of_lt b i hi] at h
  have := list_count_set b.bits i hi false
  rw [h] at this
  simpa [Bits.clear, Bits.count] using this

theorem count_le_length (b : Bits) : b.count ≤ b.length :=
  List.count_le_length

theorem full_iff_count (b : Bits) : b.full = true ↔ b.count = b.length := by
  simp only [Bits.full, Bits.count, Bits.length, List.all_eq_true, List.count_eq_length]
  exact ⟨fun h x hx => (h x hx).symm, fun h x hx => (h x hx).symm⟩

/-- The bitmap `bm` of `n` bits is the characteristic function of the list `out`, which has no
repetitions, when bit `i` stands for `dec i`: what both allocators maintain between their bitmap
and what they have handed out. -/
structure Tracks {α : Type} (dec : Nat → α) (bm : Bits) (n : Nat) (out : List α) : Prop where
  len : bm.length = n
  nodup : out.Nodup
  test : ∀ i, i < n → (bm.test i = true ↔ dec i ∈ out)
  count : out.length = bm.count

section
variable {α : Type} {dec : Nat → α} {bm : Bits} {n : Nat} {out : List α}

theorem Tracks.new (dec : Nat → α) (n : Nat) : (Bits.new n).Tracks dec n [] :=
  ⟨length_new n, List.nodup_nil, fun i _ => by simp, by simp⟩

theorem Tracks.set (T : bm.Tracks dec n out) {i : Nat} (hi : i < n) (ht : bm.test i = false)
    (hinj : ∀ j, j < n → dec j = dec i → j = i) : (bm.set i).Tracks dec n (dec i :: out) := by
  have hil : i < bm.length := T.len ▸ hi
  refine ⟨(length_set_of_lt bm i hil).trans T.len, List.nodup_cons.2 ⟨?_, T.nodup⟩, ?_, ?_⟩
  · intro hm
    rw [← T.test i hi, ht] at hm
    cases hm
  · intro j hj
    rw [test_set, List.mem_cons, Bool.or_eq_true, decide_eq_true_eq, T.test j hj]
    exact or_congr_left ⟨congrArg dec, hinj j hj⟩
  · rw [List.length_cons, T.count, count_set_of_not_test bm i hil ht]

theorem Tracks.clear [BEq α] [LawfulBEq α] (T : bm.Tracks dec n out) {d : Nat} (hd : d < n)
    (ht : bm.test d = true) (hinj : ∀ j, j < n → dec j = dec d → j = d) :
    (bm.clear d).Tracks dec n (out.filter (· != dec d)) := by
  refine ⟨(length_clear bm d).trans T.len, T.nodup.filter _, ?_, ?_⟩
  · intro j hj
    rw [test_clear, List.mem_filter, Bool.and_eq_true, T.test j hj, Bool.not_eq_true',
      decide_eq_false_iff_not, bne_iff_ne, and_comm]
    exact and_congr_right' (not_congr ⟨congrArg dec, hinj j hj⟩)
  · have h1 := length_filter_bne_of_nodup T.nodup ((T.test d hd).1 ht)
    have h2 := count_clear_of_test bm d ht
    have h3 := T.count
    omega

theorem Tracks.length_of_full (T : bm.Tracks dec n out) (hf : bm.full = true) : out.length = n := by
  rw [T.count, (full_iff_count bm).1 hf, T.len]

end

end Bits

/-! `Bits.lt_length_of_test` and `Bits.full_iff` under a second name; no proof uses these two. -/
namespace Bits6

theorem lt_length_of_test (b : Bits) (i : Nat) (h : b.test i = true) : i < b.length :=
  Bits.lt_length_of_test b i h

theorem full_iff (b : Bits) : b.full = true ↔ ∀ i, i < b.length → b.test i = true :=
  Bits.full_iff b

end Bits6
end CoreDhcp
