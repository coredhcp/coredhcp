/-
Lemmas about the monitors' verdicts (Spec/Alloc.lean), shared by the proofs of the two allocators.
-/
import CoreDhcp.Spec.Alloc
import CoreDhcp.Proofs.ListLemmas
namespace CoreDhcp

theorem Verdict.all_iff (v : Verdict) :
    v.all = true ↔ v.c04 = true ∧ v.c05 = true ∧ v.c06 = true ∧ v.c07 = true := by
  simp only [Verdict.all, Bool.and_eq_true, and_assoc]

theorem Verdict.all_proj {l : List Verdict} (h : l.all Verdict.all = true) :
    l.all (·.c04) = true ∧ l.all (·.c05) = true ∧ l.all (·.c06) = true ∧ l.all (·.c07) = true :=
  ⟨all_of_all_imp h fun v hv => ((Verdict.all_iff v).1 hv).1,
   all_of_all_imp h fun v hv => ((Verdict.all_iff v).1 hv).2.1,
   all_of_all_imp h fun v hv => ((Verdict.all_iff v).1 hv).2.2.1,
   all_of_all_imp h fun v hv => ((Verdict.all_iff v).1 hv).2.2.2⟩

end CoreDhcp
