/-
The range-plugin model passes the C02 and C03 monitors on every run; restarts restore the state.
-/
import CoreDhcp.Spec.Range
import CoreDhcp.Proofs.Alloc4
namespace CoreDhcp

/-! Found first, these spare `simp` the long search through the order classes that it otherwise makes, at every call that
meets a `==`, before it finds them. -/
local instance : LawfulBEq (BitVec 32) := inferInstance
local instance : ReflBEq (BitVec 32) := inferInstance
local instance : ReflBEq Nat := inferInstance

theorem unixFloor_mul_ge (t : Int) : unixFloor t * nsPerSec ≥ t - nsPerSec := by
  unfold unixFloor nsPerSec; omega

theorem unixRound_mul_ge (t : Int) : unixRound t * nsPerSec ≥ t - nsPerSec := by
  unfold unixRound nsPerSec; omega

theorem unixFloor_add_mul (t k : Int) : unixFloor (t + k * nsPerSec) = unixFloor t + k :=
  Int.add_mul_ediv_right t k (by decide)

theorem unixFloor_mul (k : Int) : unixFloor (k * nsPerSec) = k :=
  Int.mul_ediv_cancel k (by decide)

theorem unixRound_mul (k : Int) : unixRound (k * nsPerSec) = k := by
  rw [unixRound, Int.add_comm, Int.add_mul_ediv_right _ _ (by decide)]
  exact Int.zero_add k

theorem keptLease_mul (k : Int) : keptLease (k * nsPerSec) = k * nsPerSec := by
  rw [keptLease, unixRound_mul]

theorem leaseOpt_mul (k : Int) (h0 : 0 ≤ k) (h1 : k < 4294967296) : (leaseOpt (k * nsPerSec) : Int) = k := by
  rw [leaseOpt, unixRound_mul, Int.emod_eq_of_lt h0 h1, Int.toNat_of_nonneg h0]

theorem eq_mul_of_emod_nsPerSec (l : Int) (h : l % nsPerSec = 0) : l = l / nsPerSec * nsPerSec := by
  rw [Int.ediv_mul_cancel (Int.dvd_of_emod_eq_zero h)]

def KD {α β} (l : List (α × β)) : Prop := l.Pairwise (fun p q => p.1 ≠ q.1)

section keyed
variable {α β : Type}

theorem KD.perm {l l' : List (α × β)} (hk : KD l) (hp : l.Perm l') : KD l' :=
  hp.pairwise hk (fun h => Ne.symm h)

theorem KD.filter {l : List (α × β)} (hk : KD l) (f : α × β → Bool) : KD (l.filter f) :=
  List.Pairwise.filter f hk

theorem eq_of_mem_of_pairwise_ne {γ : Type} {f : α → γ} {l : List α}
    (hk : l.Pairwise (fun p q => f p ≠ f q)) {p q : α} (hp : p ∈ l) (hq : q ∈ l) (h : f p = f q) :
    p = q := by
  induction l with
  | nil => cases hp
  | cons x xs ih =>
    rw [List.pairwise_cons] at hk
    rcases List.mem_cons.1 hp with rfl | hp' <;> rcases List.mem_cons.1 hq with rfl | hq'
    · rfl
    · exact absurd h (hk.1 q hq')
    · exact absurd h.symm (hk.1 p hp')
    · exact ih hk.2 hp' hq'

variable [BEq α] [LawfulBEq α]

theorem assoc_eq_none_iff (l : List (α × β)) (m : α) :
    (l.find? (fun p => p.1 == m)).map (·.2) = none ↔ ∀ p ∈ l, p.1 ≠ m := by
  simp only [Option.map_eq_none_iff, List.find?_eq_none, beq_iff_eq, ne_eq]

theorem mem_of_assoc_eq_some {l : List (α × β)} {m : α} {v : β}
    (h : (l.find? (fun p => p.1 == m)).map (·.2) = some v) : (m, v) ∈ l := by
  obtain ⟨p, hp, rfl⟩ := Option.map_eq_some_iff.1 h
  have hpm := List.find?_some hp
  rw [beq_iff_eq] at hpm
  exact hpm ▸ List.mem_of_find?_eq_some hp

theorem KD.assoc_eq_some_iff {l : List (α × β)} (hk : KD l) (m : α) (v : β) :
    (l.find? (fun p => p.1 == m)).map (·.2) = some v ↔ (m, v) ∈ l := by
  refine ⟨mem_of_assoc_eq_some, fun h => ?_⟩
  cases hf : l.find? (fun p => p.1 == m) with
  | none => simpa using List.find?_eq_none.1 hf _ h
  | some p =>
    have hpm := List.find?_some hf
    rw [beq_iff_eq] at hpm
    exact congrArg some (congrArg Prod.snd (eq_of_mem_of_pairwise_ne hk (List.mem_of_find?_eq_some hf) h hpm))

theorem filter_key_ne_self (l : List (α × β)) (m : α) (h : ∀ p ∈ l, p.1 ≠ m) :
    l.filter (fun p => !(p.1 == m)) = l := by
  rw [List.filter_eq_self]
  intro p hp
  simpa using h p hp

theorem KD.perm_put {l : List (α × β)} (hk : KD l) (m : α) (v : β) (hm : (m, v) ∈ l) :
    l.Perm ((m, v) :: l.filter (fun p => !(p.1 == m))) := by
  induction l with
  | nil => cases hm
  | cons q qs ih =>
    rw [KD, List.pairwise_cons] at hk
    by_cases hq : q = (m, v)
    · subst hq
      have : qs.filter (fun p => !(p.1 == m)) = qs :=
        filter_key_ne_self qs m (fun p hp => Ne.symm (hk.1 p hp))
      simp [this]
    · have hm' : (m, v) ∈ qs := by
        rcases List.mem_cons.1 hm with h | h
        · exact absurd h.symm hq
        · exact h
      have hne : q.1 ≠ m := hk.1 _ hm'
      have hb : (!(q.1 == m)) = true := by simpa using hne
      rw [List.filter_cons, if_pos hb]
      exact ((ih hk.2 hm').cons q).trans (List.Perm.swap _ _ _)

theorem KD.put {l : List (α × β)} (hk : KD l) (m : α) (v : β) :
    KD ((m, v) :: l.filter (fun p => !(p.1 == m))) := by
  refine List.pairwise_cons.2 ⟨fun p hp => Ne.symm ?_, hk.filter _⟩
  simpa using (List.mem_filter.1 hp).2

end keyed

theorem Inv4.perm {s e : BitVec 32} {a : A4} {out out' : List (BitVec 32)} (hI : Inv4 s e a out)
    (hp : out.Perm out') : Inv4 s e a out' :=
  ⟨hI.hs, hI.he, hI.hle, hI.hlen, hp.nodup_iff.1 hI.nodup, fun x hx => hI.range x (hp.mem_iff.2 hx),
    fun o ho => (hI.bit o ho).trans hp.mem_iff, hp.length_eq ▸ hI.cnt⟩

/-! the projections under which `RInv` compares `recs` with the allocator (`recIp`), the monitor's bindings (`recBound`) and
the database (`recRow`, with inverse `rowRec`) -/
def recIp (p : Mac × Rec) : BitVec 32 := p.2.ip
def recBound (p : Mac × Rec) : Mac × BitVec 32 := (p.1, p.2.ip)
def recRow (p : Mac × Rec) : Row := ⟨p.1, p.2.ip, p.2.expires⟩
def rowRec (r : Row) : Mac × Rec := (r.mac, ⟨r.ip, r.expiry⟩)

theorem remark_ok {s e : BitVec 32} (l : List (Mac × Rec)) :
    ∀ (a : A4) (out : List (BitVec 32)), Inv4 s e a out → (l.map recIp ++ out).Nodup →
      (∀ p ∈ l, s.toNat ≤ p.2.ip.toNat ∧ p.2.ip.toNat ≤ e.toNat) →
      ∃ a', remark a l = some a' ∧ Inv4 s e a' (l.map recIp ++ out) := by
  induction l with
  | nil => intro a out hI _ _; exact ⟨a, rfl, hI⟩
  | cons p rest ih =>
    intro a out hI hnd hr
    obtain ⟨m, r⟩ := p
    have hr0 := hr (m, r) List.mem_cons_self
    rw [List.map_cons, List.cons_append, List.nodup_cons] at hnd
    obtain ⟨a1, hal, hI'⟩ := hI.allocate_hint_free r.ip hr0.1 hr0.2
      (fun h => hnd.1 (List.mem_append_right _ h)) a.firstFit
    have hnd' : (rest.map recIp ++ r.ip :: out).Nodup :=
      List.perm_middle.nodup_iff.2 (List.nodup_cons.2 hnd)
    obtain ⟨a', h1, h2⟩ := ih _ _ hI' hnd' (fun p hp => hr p (List.mem_cons_of_mem _ hp))
    refine ⟨a', ?_, h2.perm List.perm_middle⟩
    simp only [remark, hal, beq_self_eq_true, if_true]
    exact h1

theorem remark_keeps_bounds (l : List (Mac × Rec)) : ∀ (a a' : A4), remark a l = some a' →
    a'.start = a.start ∧ a'.stop = a.stop := by
  induction l with
  | nil =>
    intro a a' h
    simp only [remark, Option.some.injEq] at h
    subst h
    exact ⟨rfl, rfl⟩
  | cons p rest ih =>
    intro a a' h
    obtain ⟨m, r⟩ := p
    unfold remark at h
    split at h
    · rename_i a1 ip hal
      split at h
      · obtain ⟨h1, h2⟩ := ih a1 a' h
        obtain ⟨h3, h4⟩ := A4.allocate_keeps_bounds a _ _ a1 _ hal
        exact ⟨h1.trans h3, h2.trans h4⟩
      · cases h
    · cases h

/-- `bnd` is a permutation, not an equality: `recsPut` moves the entry it touches to the front, the monitor leaves a
binding where it first put it. (`dbSave` moves its row to the front as `recsPut` does, so in every reachable state `db`
is `recs.map recRow` itself; a permutation is all that is used.) -/
structure RInv (start stop : BitVec 32) (lease : Int) (s : RState)
    (bound : List (Mac × BitVec 32)) : Prop where
  hlease : s.lease = lease
  hlt : start.toNat < stop.toNat
  a4 : Inv4 start stop s.alloc (s.recs.map recIp)
  keys : KD s.recs
  bnd : bound.Perm (s.recs.map recBound)
  db : s.db.Perm (s.recs.map recRow)

theorem KD.map_recBound {l : List (Mac × Rec)} (hk : KD l) : KD (l.map recBound) := by
  rw [KD, List.pairwise_map]; exact hk

theorem lookupRec_none {l : List (Mac × Rec)} {m : Mac} :
    lookupRec l m = none ↔ ∀ p ∈ l, p.1 ≠ m := assoc_eq_none_iff l m

theorem lookupRec_some {l : List (Mac × Rec)} (hk : KD l) {m : Mac} {r : Rec} :
    lookupRec l m = some r ↔ (m, r) ∈ l := hk.assoc_eq_some_iff m r

theorem lookupBound_none {l : List (Mac × BitVec 32)} {m : Mac} :
    lookupBound l m = none ↔ ∀ p ∈ l, p.1 ≠ m := assoc_eq_none_iff l m

theorem lookupBound_some {l : List (Mac × BitVec 32)} (hk : KD l) {m : Mac} {ip : BitVec 32} :
    lookupBound l m = some ip ↔ (m, ip) ∈ l := hk.assoc_eq_some_iff m ip

section inv
variable {start stop : BitVec 32} {lease : Int} {s : RState} {bound : List (Mac × BitVec 32)}

theorem RInv.bkeys (hI : RInv start stop lease s bound) : KD bound :=
  hI.keys.map_recBound.perm hI.bnd.symm

theorem RInv.bound_none (hI : RInv start stop lease s bound) {m : Mac}
    (h : lookupRec s.recs m = none) : lookupBound bound m = none := by
  rw [lookupRec_none] at h
  rw [lookupBound_none]
  intro p hp
  obtain ⟨q, hq, rfl⟩ := List.mem_map.1 (hI.bnd.mem_iff.1 hp)
  exact h q hq

theorem RInv.bound_some (hI : RInv start stop lease s bound) {m : Mac} {r : Rec}
    (h : lookupRec s.recs m = some r) : lookupBound bound m = some r.ip := by
  rw [lookupRec_some hI.keys] at h
  rw [lookupBound_some hI.bkeys]
  exact hI.bnd.mem_iff.2 (List.mem_map.2 ⟨(m, r), h, rfl⟩)

theorem RInv.bound_len (hI : RInv start stop lease s bound) :
    bound.length = s.alloc.bm.count := by
  rw [hI.bnd.length_eq, List.length_map, ← hI.a4.cnt, List.length_map]

theorem RInv.fresh (hI : RInv start stop lease s bound) (n : Nat) (hlt : n < s.alloc.bm.length)
    (hn : s.alloc.bm.test n = false) : ∀ q ∈ bound, q.2 ≠ start + BitVec.ofNat 32 n := by
  intro q hq heq
  obtain ⟨p, hp, rfl⟩ := List.mem_map.1 (hI.bnd.mem_iff.1 hq)
  have : start + BitVec.ofNat 32 n ∈ s.recs.map recIp :=
    List.mem_map.2 ⟨p, hp, heq⟩
  rw [← hI.a4.bit n hlt, hn] at this
  cases this

theorem RInv.inrange (hI : RInv start stop lease s bound) {m : Mac} {r : Rec}
    (h : (m, r) ∈ s.recs) : start.toNat ≤ r.ip.toNat ∧ r.ip.toNat ≤ stop.toNat :=
  hI.a4.range r.ip (List.mem_map.2 ⟨(m, r), h, rfl⟩)

/-- the table follows the records under a put on both, provided a record the key may have had carries the same address
(the table's key is the pair of hardware address and IP address) -/
theorem RInv.db_put (hI : RInv start stop lease s bound) (mac : Mac) (r : Rec)
    (h : ∀ p ∈ s.recs, p.1 = mac → p.2.ip = r.ip) :
    (dbSave s.db (recRow (mac, r))).Perm ((recsPut s.recs mac r).map recRow) := by
  refine ((hI.db.filter _).cons _).trans (.of_eq ?_)
  rw [recsPut, List.map_cons, List.filter_map]
  congr 2
  apply List.filter_congr
  intro p hp
  by_cases hm : p.1 = mac
  · simp only [Function.comp, recRow, hm, h p hp hm, beq_self_eq_true, Bool.and_self]
  · simp only [Function.comp, recRow, beq_eq_false_iff_ne.mpr hm, Bool.false_and]

theorem RInv.step_new (hI : RInv start stop lease s bound) (mac : Mac)
    (hl : lookupRec s.recs mac = none) (n : Nat) (hlt : n < s.alloc.bm.length)
    (hn : s.alloc.bm.test n = false) (ex : Int) :
    RInv start stop lease
      { s with alloc := { s.alloc with bm := s.alloc.bm.set n },
               recs := recsPut s.recs mac ⟨start + BitVec.ofNat 32 n, ex⟩,
               db := dbSave s.db ⟨mac, start + BitVec.ofNat 32 n, ex⟩ }
      ((mac, start + BitVec.ofNat 32 n) :: bound) := by
  rw [lookupRec_none] at hl
  have hdb := hI.db_put mac ⟨start + BitVec.ofNat 32 n, ex⟩ (fun p hp hm => absurd hm (hl p hp))
  have hrecs : recsPut s.recs mac ⟨start + BitVec.ofNat 32 n, ex⟩
      = (mac, ⟨start + BitVec.ofNat 32 n, ex⟩) :: s.recs := by
    unfold recsPut; rw [filter_key_ne_self s.recs mac hl]
  rw [hrecs] at hdb ⊢
  refine ⟨hI.hlease, hI.hlt, ?_, ?_, ?_, hdb⟩
  · exact hI.a4.alloc_ok n hn hlt
  · exact List.pairwise_cons.2 ⟨fun p hp => Ne.symm (hl p hp), hI.keys⟩
  · exact hI.bnd.cons _

theorem RInv.step_renew (hI : RInv start stop lease s bound) (mac : Mac) (r : Rec)
    (hl : lookupRec s.recs mac = some r) (ex : Int) :
    RInv start stop lease
      { s with recs := recsPut s.recs mac ⟨r.ip, ex⟩, db := dbSave s.db ⟨mac, r.ip, ex⟩ }
      bound := by
  rw [lookupRec_some hI.keys] at hl
  have hp := hI.keys.perm_put mac r hl
  refine ⟨hI.hlease, hI.hlt, ?_, hI.keys.put mac _, ?_, ?_⟩
  · exact hI.a4.perm (hp.map recIp)
  · exact hI.bnd.trans (hp.map recBound)
  · -- keys are distinct: the one record of `mac` is `r`
    exact hI.db_put mac ⟨r.ip, ex⟩ (fun p hp hm => by rw [eq_of_mem_of_pairwise_ne hI.keys hp hl hm])

/-- some row stored for `mac` carries the address served and an expiry that is late enough: the
test of the C03 monitor -/
abbrev StoredOk (s' : RState) (mac : Mac) (now lease : Int) (ip : BitVec 32) : Prop :=
  (s'.db.filter (fun x => x.mac == mac)).any
    (fun r => r.ip == ip && decide (r.expiry * nsPerSec ≥ now + lease - nsPerSec)) = true

theorem StoredOk.of_mem {s' : RState} {mac : Mac} {now lease : Int} (x : Row) (hx : x ∈ s'.db)
    (hm : x.mac = mac) (hex : x.expiry * nsPerSec ≥ now + lease - nsPerSec) :
    StoredOk s' mac now lease x.ip :=
  List.any_eq_true.2 ⟨x, List.mem_filter.2 ⟨hx, by simp [hm]⟩, by simp [hex]⟩

/-- the three ways a request can be handled, as the monitor sees them -/
theorem RInv.handle_cases (hI : RInv start stop lease s bound) (mac : Mac) (now : Int)
    (c : Option Nat) (s' : RState) (r : RReply) (h : s.handle mac now c = some (s', r)) :
    (∃ ip, r = .reply ip (leaseOpt lease) ∧ lookupBound bound mac = some ip ∧
      RInv start stop lease s' bound ∧ start.toNat ≤ ip.toNat ∧ ip.toNat ≤ stop.toNat ∧
      StoredOk s' mac now lease ip) ∨
    (∃ ip, r = .reply ip (leaseOpt lease) ∧ lookupBound bound mac = none ∧
      (∀ q ∈ bound, q.2 ≠ ip) ∧
      RInv start stop lease s' ((mac, ip) :: bound) ∧ start.toNat ≤ ip.toNat ∧
      ip.toNat ≤ stop.toNat ∧ StoredOk s' mac now lease ip) ∨
    (r = .drop ∧ lookupBound bound mac = none ∧
      RCfg.size ⟨start, stop, lease⟩ ≤ bound.length ∧ RInv start stop lease s' bound) := by
  have hlease := hI.hlease
  subst hlease
  unfold RState.handle at h
  cases hl : lookupRec s.recs mac with
  | none =>
    simp only [hl] at h
    have hbn := hI.bound_none hl
    cases hal : s.alloc.allocate none c with
    | none => simp [hal] at h
    | some p =>
      obtain ⟨a', res⟩ := p
      rcases hI.a4.allocate_cases none c res hal with ⟨rfl, rfl, hf⟩ | ⟨n, hlt, hn, rfl, rfl⟩
      · simp only [hal, Option.some.injEq, Prod.mk.injEq] at h
        obtain ⟨rfl, rfl⟩ := h
        refine Or.inr (Or.inr ⟨rfl, hbn, ?_, hI⟩)
        rw [hI.bound_len, (Bits.full_iff_count _).1 hf, hI.a4.hlen]
        exact Nat.le_refl _
      · simp only [hal, Option.some.injEq, Prod.mk.injEq] at h
        obtain ⟨rfl, rfl⟩ := h
        have hI' := hI.step_new mac hl n hlt hn (unixFloor (now + s.lease))
        have hr := hI'.inrange (m := mac) List.mem_cons_self
        refine Or.inr (Or.inl ⟨_, rfl, hbn, hI.fresh n hlt hn, hI', hr.1, hr.2, ?_⟩)
        exact StoredOk.of_mem ⟨mac, _, _⟩ List.mem_cons_self rfl (unixFloor_mul_ge _)
  | some r0 =>
    simp only [hl] at h
    have hbs := hI.bound_some hl
    have hmem := (lookupRec_some hI.keys).1 hl
    have hr := hI.inrange hmem
    split at h
    · simp only [Option.some.injEq, Prod.mk.injEq] at h
      obtain ⟨rfl, rfl⟩ := h
      refine Or.inl ⟨_, rfl, hbs, hI.step_renew mac r0 hl _, hr.1, hr.2, ?_⟩
      exact StoredOk.of_mem ⟨mac, _, _⟩ List.mem_cons_self rfl (unixRound_mul_ge _)
    · next hnot =>
      simp only [Option.some.injEq, Prod.mk.injEq] at h
      obtain ⟨rfl, rfl⟩ := h
      refine Or.inl ⟨_, rfl, hbs, hI, hr.1, hr.2, ?_⟩
      refine StoredOk.of_mem (recRow (mac, r0)) (hI.db.mem_iff.2 (List.mem_map.2 ⟨_, hmem, rfl⟩)) rfl ?_
      -- not renewed: the stored expiry is not before `now + lease`, a second more than asked
      exact Int.le_trans (Int.sub_le_self _ (by decide)) (Int.not_lt.1 hnot)

theorem RInv.handle_mon (hI : RInv start stop lease s bound) (mac : Mac) (now : Int)
    (c : Option Nat) (s' : RState) (r : RReply) (h : s.handle mac now c = some (s', r)) :
    RInv start stop lease s'
      (RMon.step ⟨start, stop, lease⟩ bound
        (.req mac now r (s'.db.filter (fun x => x.mac == mac)))).1 ∧
    (RMon.step ⟨start, stop, lease⟩ bound
        (.req mac now r (s'.db.filter (fun x => x.mac == mac)))).2.all = true := by
  rcases hI.handle_cases mac now c s' r h with
    ⟨ip, rfl, hb, hI', h1, h2, hst⟩ | ⟨ip, rfl, hb, hf, hI', h1, h2, hst⟩ | ⟨rfl, hb, hsz, hI'⟩
  · simp only [RMon.step, hb, hst, RVerdict.all, h1, h2]
    exact ⟨hI', by simp⟩
  · have hany : bound.any (fun p => p.2 == ip) = false := by
      rw [List.any_eq_false]
      intro p hp
      simpa using hf p hp
    simp only [RMon.step, hb, hst, hany, RVerdict.all, h1, h2]
    exact ⟨hI', by simp⟩
  · simp only [RMon.step, hb, RVerdict.all, hsz]
    exact ⟨hI', by simp⟩

end inv

theorem setup_eq (start stop : BitVec 32) (lease : Int) (db : List Row)
    (loadKey : Mac → Option Mac) (order : List (Mac × Rec) → List (Mac × Rec))
    (L : List (Mac × Rec)) (a' : A4) (hlt : start.toNat < stop.toNat)
    (hL : loadRecords loadKey db = some L)
    (hr : remark ⟨start, stop, Bits.new (A4.size start stop)⟩ (order L) = some a') :
    RState.setup start stop lease db loadKey order = .ok ⟨a', L, db, lease⟩ := by
  unfold RState.setup
  rw [if_neg (Nat.not_le.2 hlt)]
  simp only [A4.new_eq_ok start stop (Nat.le_of_lt hlt), hL, hr]

theorem loadRecords_eq_map_rowRec (loadKey : Mac → Option Mac) (hkey : ∀ m, loadKey m = some m)
    (db : List Row) (hd : db.Pairwise (fun x y => x.mac ≠ y.mac)) :
    loadRecords loadKey db = some (db.map rowRec) := by
  induction db with
  | nil => rfl
  | cons r rows ih =>
    rw [List.pairwise_cons] at hd
    simp only [loadRecords, hkey, ih hd.2, List.map_cons]
    unfold recsPut
    rw [filter_key_ne_self]
    · rfl
    · intro p hp
      obtain ⟨x, hx, rfl⟩ := List.mem_map.1 hp
      exact Ne.symm (hd.1 x hx)

theorem lookupRec_perm {l l' : List (Mac × Rec)} (hk : KD l) (hp : l.Perm l') (m : Mac) :
    lookupRec l m = lookupRec l' m := by
  cases h : lookupRec l' m with
  | none =>
    rw [lookupRec_none] at h ⊢
    exact fun p hp' => h p (hp.mem_iff.1 hp')
  | some r =>
    rw [lookupRec_some (hk.perm hp)] at h
    rw [lookupRec_some hk]
    exact hp.mem_iff.2 h

theorem RInv.restart {start stop : BitVec 32} {lease : Int} {s : RState}
    {bound : List (Mac × BitVec 32)} (hI : RInv start stop lease s bound)
    (loadKey : Mac → Option Mac) (order : List (Mac × Rec) → List (Mac × Rec))
    (hkey : ∀ m, loadKey m = some m) (hperm : ∀ l, (order l).Perm l) :
    ∃ s', s.restart loadKey order = .ok s' ∧ RInv start stop lease s' bound ∧
      (∀ m, lookupRec s'.recs m = lookupRec s.recs m) ∧
      s'.alloc.bm.length = s.alloc.bm.length ∧
      (∀ i, s'.alloc.bm.test i = s.alloc.bm.test i) := by
  -- The table is a permutation image of `recs` with distinct keys, so `loadRecords` returns `db.map rowRec`, a permutation
  -- of `recs`.  Re-marking it, in whatever order, from the fresh allocator gives `Inv4` over the same addresses; both
  -- bitmaps are then the characteristic function of that list (`Inv4.bit`), hence equal.
  have hd : s.db.Pairwise (fun x y => x.mac ≠ y.mac) := by
    have : (s.recs.map recRow).Pairwise (fun x y => x.mac ≠ y.mac) := by
      rw [List.pairwise_map]; exact hI.keys
    exact hI.db.symm.pairwise this (fun h => Ne.symm h)
  have hload := loadRecords_eq_map_rowRec loadKey hkey s.db hd
  have hL : (s.db.map rowRec).Perm s.recs := by
    have h1 := hI.db.map rowRec
    rwa [List.map_map, List.map_id'' (f := rowRec ∘ recRow) (fun _ => rfl)] at h1
  have hO : (order (s.db.map rowRec)).Perm s.recs := (hperm _).trans hL
  have hI0 := Inv4.init start stop _ (A4.new_eq_ok start stop (Nat.le_of_lt hI.hlt))
  obtain ⟨a', hrem, hI'⟩ := remark_ok (order (s.db.map rowRec)) _ [] hI0
    (by rw [List.append_nil]; exact (hO.map recIp).nodup_iff.2 hI.a4.nodup)
    (fun p hp => hI.inrange (m := p.1) (r := p.2) (hO.mem_iff.1 hp))
  rw [List.append_nil] at hI'
  have hI'' : Inv4 start stop a' (s.recs.map recIp) := hI'.perm (hO.map recIp)
  have hlen : a'.bm.length = s.alloc.bm.length := by rw [hI''.hlen, hI.a4.hlen]
  refine ⟨⟨a', s.db.map rowRec, s.db, s.lease⟩, ?_, ?_, ?_, ?_, ?_⟩
  · unfold RState.restart
    rw [hI.a4.hs, hI.a4.he]
    exact setup_eq start stop s.lease s.db loadKey order _ a' hI.hlt hload hrem
  · exact ⟨hI.hlease, hI.hlt, hI''.perm (hL.symm.map recIp), hI.keys.perm hL.symm,
      hI.bnd.trans (hL.symm.map recBound), hI.db.trans (hL.symm.map recRow)⟩
  · exact fun m => (lookupRec_perm hI.keys hL.symm m).symm
  · exact hlen
  · intro i
    by_cases hi : i < s.alloc.bm.length
    · rw [Bool.eq_iff_iff, hI''.bit i (hlen ▸ hi), hI.a4.bit i hi]
    · rw [Bits.test_of_ge _ i (hlen ▸ Nat.not_lt.1 hi), Bits.test_of_ge _ i (Nat.not_lt.1 hi)]

def RReply.served : RReply → Option (BitVec 32)
  | .reply ip _ => some ip
  | _ => none

/-- bindings that form an injective partial function: no client twice, no address twice -/
def RMon.InjB (b : List (Mac × BitVec 32)) : Prop := b.Pairwise (fun p q => p.1 ≠ q.1 ∧ p.2 ≠ q.2)

theorem RMon.InjB.iff {b : List (Mac × BitVec 32)} (hb : RMon.InjB b) {p q : Mac × BitVec 32} (hp : p ∈ b) (hq : q ∈ b) :
    p.1 = q.1 ↔ p.2 = q.2 :=
  ⟨fun h => congrArg _ (eq_of_mem_of_pairwise_ne (hb.imp And.left) hp hq h),
    fun h => congrArg _ (eq_of_mem_of_pairwise_ne (hb.imp And.right) hp hq h)⟩

/-- What the C02 verdict on a request means for the bindings: the client is served its binding after
the step (none, if it has none), no binding is lost, the bindings stay injective, and a reply carries an address of
the range and the configured lease time. -/
theorem RMon.step_req_c02 (c : RCfg) (bound : List (Mac × BitVec 32)) (mac : Mac) (now : Int)
    (r : RReply) (stored : List Row) (h : (RMon.step c bound (.req mac now r stored)).2.c02 = true) :
    lookupBound (RMon.step c bound (.req mac now r stored)).1 mac = r.served ∧
      (∀ q ∈ bound, q ∈ (RMon.step c bound (.req mac now r stored)).1) ∧
      (RMon.InjB bound → RMon.InjB (RMon.step c bound (.req mac now r stored)).1) ∧
      ∀ ip l, r = .reply ip l → c.start.toNat ≤ ip.toNat ∧ ip.toNat ≤ c.stop.toNat ∧ l = leaseOpt c.lease := by
  cases r with
  | panic => cases h
  | drop =>
    simp only [RMon.step, Bool.and_eq_true, Option.isNone_iff_eq_none] at h
    exact ⟨h.1, fun _ hq => hq, id, nofun⟩
  | reply ip l =>
    cases hb : lookupBound bound mac with
    | none =>
      simp only [RMon.step, hb, Bool.and_eq_true, decide_eq_true_eq, beq_iff_eq, Bool.not_eq_true',
        List.any_eq_false] at h ⊢
      obtain ⟨⟨hr, hfresh⟩, hl⟩ := h
      refine ⟨by simp [lookupBound, RReply.served], fun _ hq => List.mem_cons_of_mem _ hq, fun hinj => ?_, ?_⟩
      · exact List.pairwise_cons.2
          ⟨fun q hq => ⟨fun e => lookupBound_none.1 hb q hq e.symm, fun e => hfresh q hq e.symm⟩, hinj⟩
      · rintro _ _ ⟨⟩
        exact ⟨hr.1, hr.2, hl⟩
    | some ip0 =>
      simp only [RMon.step, hb, Bool.and_eq_true, decide_eq_true_eq, beq_iff_eq] at h ⊢
      refine ⟨by rw [h.1.2]; rfl, fun _ hq => hq, id, ?_⟩
      rintro _ _ ⟨⟩
      exact ⟨h.1.1.1, h.1.1.2, h.2⟩

theorem RInv.addr_inj {start stop : BitVec 32} {lease : Int} {s : RState}
    {bound : List (Mac × BitVec 32)} (hI : RInv start stop lease s bound) {p q : Mac × BitVec 32}
    (hp : p ∈ bound) (hq : q ∈ bound) (h : p.2 = q.2) : p = q := by
  have hnd : (bound.map (·.2)).Nodup :=
    (hI.bnd.map (·.2)).nodup_iff.2 (by rw [List.map_map]; exact hI.a4.nodup)
  exact eq_of_mem_of_pairwise_ne (List.pairwise_map.1 hnd) hp hq h

/-- the served entry `q` is acceptable to the restart monitor with bindings `bound` -/
def RMon.ServedOk (bound : List (Mac × BitVec 32)) (q : Mac × Option (BitVec 32)) : Prop :=
  (∀ ip, lookupBound bound q.1 = some ip → q.2 = some ip) ∧
  (lookupBound bound q.1 = none → ∀ ip, q.2 = some ip → ∀ p ∈ bound, p.2 ≠ ip)

theorem RInv.servedOk_of_lookup {start stop : BitVec 32} {lease : Int} {s : RState}
    {b bound : List (Mac × BitVec 32)} (hI : RInv start stop lease s b)
    (hsub : ∀ q ∈ bound, q ∈ b) (m : Mac) : RMon.ServedOk bound (m, lookupBound b m) := by
  -- keys and addresses of `b` are distinct, so nothing of `bound` is changed or given away
  constructor
  · intro ip h
    exact (lookupBound_some hI.bkeys).2 (hsub _ (mem_of_assoc_eq_some h))
  · intro h ip hip p hp heq
    have := hI.addr_inj (hsub p hp) ((lookupBound_some hI.bkeys).1 hip) heq
    subst this
    exact lookupBound_none.1 h _ hp rfl

theorem RState.serve_cons_eq_some {s s'' : RState} {m : Mac} {ms : List Mac} {now : Int}
    {cs cs' : List (Option Nat)} {served : List (Mac × Option (BitVec 32))}
    (h : RState.serve s (m :: ms) now cs = some (s'', served, cs')) :
    ∃ c cs0 s1 r l, cs = c :: cs0 ∧ s.handle m now c = some (s1, r) ∧
      RState.serve s1 ms now cs0 = some (s'', l, cs') ∧ served = (m, r.served) :: l := by
  cases cs with
  | nil => cases h
  | cons c cs0 =>
    simp only [RState.serve] at h
    cases hh : s.handle m now c with
    | none => rw [hh] at h; cases h
    | some p =>
      obtain ⟨s1, r⟩ := p
      simp only [hh] at h
      cases hs : RState.serve s1 ms now cs0 with
      | none => rw [hs] at h; cases h
      | some t =>
        obtain ⟨s2, l, cs2⟩ := t
        simp only [hs, Option.some.injEq, Prod.mk.injEq] at h
        obtain ⟨rfl, rfl, rfl⟩ := h
        exact ⟨c, cs0, s1, r, l, rfl, hh, hs, by cases r <;> rfl⟩

/-- `bound` is frozen at the restart; `b`, the bindings of the copy that serves the probes, grows from it -/
theorem RState.serve_forall_servedOk {start stop : BitVec 32} {lease : Int} (bound : List (Mac × BitVec 32))
    (now : Int) (ask : List Mac) :
    ∀ (s : RState) (b : List (Mac × BitVec 32)) (cs : List (Option Nat)) (s'' : RState)
      (served : List (Mac × Option (BitVec 32))) (cs' : List (Option Nat)),
      RInv start stop lease s b → (∀ q ∈ bound, q ∈ b) →
      RState.serve s ask now cs = some (s'', served, cs') → ∀ q ∈ served, RMon.ServedOk bound q := by
  induction ask with
  | nil =>
    intro s b cs s'' served cs' _ _ h
    simp only [RState.serve, Option.some.injEq, Prod.mk.injEq] at h
    obtain ⟨_, rfl, _⟩ := h
    intro q hq; cases hq
  | cons m ms ih =>
    intro s b cs s'' served cs' hI hsub h
    obtain ⟨c, cs0, s1, r, l, rfl, hh, hs, rfl⟩ := RState.serve_cons_eq_some h
    obtain ⟨hI', hv⟩ := hI.handle_mon m now c s1 r hh
    obtain ⟨hserved, hmono, -, -⟩ := RMon.step_req_c02 _ b m now r _ (Bool.and_eq_true_iff.1 hv).1
    have hsub' := fun q hq => hmono q (hsub q hq)
    intro q hq
    rcases List.mem_cons.1 hq with rfl | hq
    · exact hserved ▸ hI'.servedOk_of_lookup hsub' m
    · exact ih s1 _ cs0 s'' l cs' hI' hsub' hs q hq

theorem RMon.step_restart_all (c : RCfg) (bound : List (Mac × BitVec 32))
    (served : List (Mac × Option (BitVec 32))) (h : ∀ q ∈ served, RMon.ServedOk bound q) :
    (RMon.step c bound (.restart true served)).2.all = true := by
  simp only [RMon.step, RVerdict.all, Bool.true_and, Bool.and_eq_true, List.all_eq_true]
  constructor
  · intro q hq
    cases hb : lookupBound bound q.1 with
    | none => rfl
    | some ip => simp [(h q hq).1 ip hb]
  · intro q hq
    cases hb : lookupBound bound q.1 with
    | none =>
      cases hq2 : q.2 with
      | none => rfl
      | some ip =>
        have := (h q hq).2 hb ip hq2
        simp only [Bool.not_eq_true', List.any_eq_false, beq_iff_eq]
        exact this
    | some ip => rfl

theorem RInv.run {start stop : BitVec 32} {lease : Int}
    (loadKey : Mac → Option Mac) (order : List (Mac × Rec) → List (Mac × Rec))
    (hkey : ∀ m, loadKey m = some m) (hperm : ∀ l, (order l).Perm l) (ops : List ROp) :
    ∀ (s : RState) (bound : List (Mac × BitVec 32)) (cs : List (Option Nat)) (evs : List REv)
      (z : RState), RInv start stop lease s bound →
      RState.run loadKey order s ops cs = some (evs, z) →
      (RMon.run ⟨start, stop, lease⟩ bound evs).all RVerdict.all = true ∧
        ∃ bound', RInv start stop lease z bound' := by
  induction ops with
  | nil =>
    intro s bound cs evs z hI hrun
    simp only [RState.run, Option.some.injEq, Prod.mk.injEq] at hrun
    obtain ⟨rfl, rfl⟩ := hrun
    exact ⟨rfl, bound, hI⟩
  | cons op ops ih =>
    intro s bound cs evs z hI hrun
    cases op with
    | req mac now =>
      cases cs with
      | nil => cases hrun
      | cons c cs' =>
        simp only [RState.run] at hrun
        split at hrun
        · cases hrun
        · next s' r hh =>
          obtain ⟨evs', rfl, hrun'⟩ := map_cons_eq_some hrun
          obtain ⟨hI', hv⟩ := hI.handle_mon mac now c s' r hh
          obtain ⟨h1, h2⟩ := ih s' _ cs' evs' z hI' hrun'
          refine ⟨?_, h2⟩
          simp only [RMon.run, List.all_cons, hv, Bool.true_and]
          exact h1
    | restart ask now =>
      simp only [RState.run] at hrun
      obtain ⟨s', hres, hI', _⟩ := hI.restart loadKey order hkey hperm
      simp only [hres] at hrun
      cases hs : RState.serve s' ask now cs with
      | none => simp [hs] at hrun
      | some t =>
        obtain ⟨s2, served, cs'⟩ := t
        simp only [hs] at hrun
        obtain ⟨evs', rfl, hrun'⟩ := map_cons_eq_some hrun
        have hg := RState.serve_forall_servedOk bound now ask s' bound cs s2 served cs' hI' (fun _ hq => hq) hs
        have hv := RMon.step_restart_all ⟨start, stop, lease⟩ bound served hg
        obtain ⟨h1, h2⟩ := ih s' bound cs' evs' z hI' hrun'
        refine ⟨?_, h2⟩
        simp only [RMon.run, List.all_cons, hv, Bool.true_and]
        exact h1

theorem RInv.init {start stop : BitVec 32} {lease : Int}
    {loadKey : Mac → Option Mac} {order : List (Mac × Rec) → List (Mac × Rec)}
    (hperm : ∀ l, (order l).Perm l)
    {s0 : RState} (hs0 : RState.setup start stop lease [] loadKey order = .ok s0) :
    RInv start stop lease s0 [] := by
  have hlt : start.toNat < stop.toNat := by
    refine Nat.lt_of_not_le fun hn => ?_
    unfold RState.setup at hs0
    rw [if_pos hn] at hs0
    cases hs0
  have ho : order [] = [] := (hperm []).eq_nil
  have := setup_eq start stop lease [] loadKey order [] _ hlt rfl (by rw [ho]; rfl)
  rw [this] at hs0
  injection hs0 with hs0
  subst hs0
  exact ⟨rfl, hlt, Inv4.init start stop _ (A4.new_eq_ok start stop (Nat.le_of_lt hlt)), List.Pairwise.nil,
    List.Perm.refl _, List.Perm.refl _⟩

/-- Every run of the range-plugin model — any requests from any hardware addresses at any times,
restarts at any points, any admissible allocator choices, any map-iteration order in the
re-marking loop — passes the C02 and C03 monitors at every step, provided the stored form of a
hardware address is read back as the same address (`hkey`). In particular a restart never fails. -/
theorem RState.run_verdicts (start stop : BitVec 32) (lease : Int)
    (loadKey : Mac → Option Mac) (order : List (Mac × Rec) → List (Mac × Rec))
    (hkey : ∀ m, loadKey m = some m) (hperm : ∀ l, (order l).Perm l)
    (s0 : RState) (hs0 : RState.setup start stop lease [] loadKey order = .ok s0)
    (ops : List ROp) (cs : List (Option Nat)) (evs : List REv) (z : RState)
    (hrun : RState.run loadKey order s0 ops cs = some (evs, z)) :
    (RMon.run ⟨start, stop, lease⟩ [] evs).all RVerdict.all = true :=
  (RInv.run loadKey order hkey hperm ops s0 [] cs evs z
    (RInv.init hperm hs0) hrun).1

/-- all C02 verdicts true from bindings `b`: there is one injective table of bindings, extending `b`, that every
answered request of the history agrees with; every address lies in the range and every lease time is the configured one -/
theorem RMon.c02_explicit (c : RCfg) (evs : List REv) :
    ∀ b, RMon.InjB b → (RMon.run c b evs).all (·.c02) = true →
    ∃ B, RMon.InjB B ∧ (∀ p ∈ b, p ∈ B) ∧
      ∀ mac now ip l stored, REv.req mac now (.reply ip l) stored ∈ evs →
        (mac, ip) ∈ B ∧ c.start.toNat ≤ ip.toNat ∧ ip.toNat ≤ c.stop.toNat ∧ l = leaseOpt c.lease := by
  induction evs with
  | nil => intro b hb _; exact ⟨b, hb, fun _ h => h, fun _ _ _ _ _ h => by cases h⟩
  | cons ev rest ih =>
    intro b hb hall
    simp only [RMon.run, List.all_cons, Bool.and_eq_true] at hall
    obtain ⟨hv, hrest⟩ := hall
    cases ev with
    | restart ok served =>
      obtain ⟨B, hB, hsub, hall'⟩ := ih b hb hrest
      exact ⟨B, hB, hsub, fun mac now ip l stored hm =>
        hall' mac now ip l stored ((List.mem_cons.1 hm).resolve_left nofun)⟩
    | req mac now r stored =>
      obtain ⟨hserved, hmono, hinj, hrep⟩ := RMon.step_req_c02 c b mac now r stored hv
      obtain ⟨B, hB, hsub, hall'⟩ := ih _ (hinj hb) hrest
      refine ⟨B, hB, fun p hp => hsub p (hmono p hp), ?_⟩
      intro mac' now' ip l stored' hm
      rcases List.mem_cons.1 hm with heq | hm'
      · cases heq
        exact ⟨hsub _ (mem_of_assoc_eq_some hserved), hrep ip l rfl⟩
      · exact hall' _ _ _ _ _ hm'

end CoreDhcp
