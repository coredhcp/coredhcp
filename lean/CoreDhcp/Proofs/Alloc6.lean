/-
The IPv6 bitmap allocator model satisfies the four history monitors (C04–C07) on every run.
`Geo` is what a well-formed pool gives (2^(page - poolLen) page-sized blocks, aligned, below 2^128);
under it `toPrefix`/`toIndex` are exact (from the C20 theorems).  `Inv6` says the outstanding blocks
start at pages of the pool and the bitmap tracks the pages' indices (`Bits.Tracks`); every
in-domain `Allocate` (a hint that is a whole mask is at most 128 ones long) and in-domain `Free`
keeps it and passes the monitors; `Inv6.run` is the induction, `A6.run_verdicts` its start from a
fresh allocator.
-/
import CoreDhcp.Proofs.AllocSpec
import CoreDhcp.Props.C20
import CoreDhcp.Proofs.Bits
namespace CoreDhcp

namespace A6Arith

/-- a block of at most a page (`U ≤ K`) that starts at page `i` ends at or before page `j > i` -/
theorem blk_sep (B K U i j : Nat) (h : i < j) (hU : U ≤ K) : B + i * K + U ≤ B + j * K := by
  have := Nat.mul_le_mul_right K (Nat.succ_le_of_lt h)
  rw [Nat.succ_mul] at this
  omega

theorem page_iff (K B x j : Nat) (hK : 0 < K) (hle : B ≤ x) :
    (x - B) / K = j ↔ B + j * K ≤ x ∧ x < B + j * K + K := by
  rw [Nat.eq_iff_le_and_ge, Nat.le_div_iff_mul_le hK, ← Nat.lt_succ_iff, Nat.div_lt_iff_lt_mul hK,
    Nat.succ_mul]
  omega

theorem aligned_room (U m hi : Nat) (hm : U ∣ m) (hh : U ∣ hi) (hlt : m < hi) :
    m + U ≤ hi := by
  obtain ⟨a, rfl⟩ := hm
  obtain ⟨b, rfl⟩ := hh
  have hab : a < b := Nat.lt_of_mul_lt_mul_left hlt
  have := Nat.mul_le_mul_left U (Nat.succ_le_of_lt hab)
  rw [Nat.mul_succ] at this
  exact this

theorem contains_iff (W B x : Nat) (hW : 0 < W) (hal : B % W = 0) :
    x / W = B / W ↔ B ≤ x ∧ x < B + W := by
  have hB := Nat.div_mul_cancel (Nat.dvd_of_mod_eq_zero hal)
  have := page_iff W 0 x (B / W) hW (Nat.zero_le _)
  rw [Nat.sub_zero, hB] at this
  rw [this]
  omega

theorem two_pow_sub_le (n a b : Nat) (h : a ≤ b) : 2^(n - b) ≤ 2^(n - a) :=
  Nat.pow_le_pow_right (by decide) (Nat.sub_le_sub_left h n)

end A6Arith

theorem maskAddr_val (ip : Addr) (ones : Nat) :
    (maskAddr ip ones).val = ip.val / 2^(128 - ones) * 2^(128 - ones) :=
  Addr.val_ofVal_of_lt (Nat.lt_of_le_of_lt (Nat.div_mul_le_self ..) ip.val_lt)

/-- What `Pool6.WF` buys, in the form the arithmetic uses: the pool is `nblocks` pages wide, its
base is aligned to a page and to the pool, and it ends at or below 2^128. -/
structure Geo (p : Pool6) : Prop where
  width : 2^(128 - p.poolLen) = p.nblocks * 2^(128 - p.page)
  alignK : 2^(128 - p.page) ∣ p.base.val
  alignW : p.base.val % 2^(128 - p.poolLen) = 0
  top : p.base.val + 2^(128 - p.poolLen) ≤ 2^128
  /-- from `page - poolLen < 64`; makes `BitVec.ofNat 64 i` exact in `toPrefix` and lets the result of
  `Offset` fit in `toIndex` -/
  nlt : p.nblocks < 2^64
  page_le : p.page ≤ 128

theorem Geo.of_WF {p : Pool6} (hp : p.WF) : Geo p := by
  obtain ⟨h1, h2, h3, h4⟩ := hp
  have hw : 2^(128 - p.poolLen) = p.nblocks * 2^(128 - p.page) := by
    unfold Pool6.nblocks
    rw [← Nat.pow_add, Nat.add_comm, Nat.sub_add_sub_cancel h2 h1]
  refine ⟨hw, ?_, h4, ?_, ?_, h2⟩
  · exact Nat.dvd_trans (Nat.pow_dvd_pow 2 (Nat.sub_le_sub_left h1 128)) (Nat.dvd_of_mod_eq_zero h4)
  · exact A6Arith.aligned_room _ _ _ (Nat.dvd_of_mod_eq_zero h4)
      (Nat.pow_dvd_pow 2 (Nat.sub_le ..)) p.base.val_lt
  · unfold Pool6.nblocks
    exact Nat.pow_lt_pow_right (by decide) h3

section
variable {p : Pool6}

theorem Geo.page_end_le (g : Geo p) (i : Nat) (hi : i < p.nblocks) :
    p.blockBase i + 2^(128 - p.page) ≤ p.base.val + 2^(128 - p.poolLen) := by
  unfold Pool6.blockBase
  rw [g.width]
  exact A6Arith.blk_sep _ _ _ i p.nblocks hi (Nat.le_refl _)

theorem Geo.blockBase_lt_top (g : Geo p) (i : Nat) (hi : i < p.nblocks) : p.blockBase i < 2^128 :=
  Nat.lt_of_lt_of_le (Nat.lt_add_of_pos_right (Nat.two_pow_pos _))
    (Nat.le_trans (g.page_end_le i hi) g.top)

theorem Geo.toPrefix_ok (g : Geo p) (a : A6) (ha : a.pool = p) (i : Nat) (hi : i < p.nblocks) :
    a.toPrefix i = .ok (Addr.ofVal (p.blockBase i)) := by
  subst ha
  unfold A6.toPrefix
  have hpg : (BitVec.ofNat 64 a.pool.page).toNat = a.pool.page :=
    Nat.mod_eq_of_lt (Nat.lt_of_le_of_lt g.page_le (by decide))
  have hi' : (BitVec.ofNat 64 i).toNat = i := Nat.mod_eq_of_lt (Nat.lt_trans hi g.nlt)
  rw [C20_addPrefixes_exact _ _ _ (hpg.symm ▸ g.page_le), hpg, hi']
  exact if_pos (g.blockBase_lt_top i hi)

theorem Geo.contains_iff (g : Geo p) (x : Addr) :
    p.contains x = true ↔ p.base.val ≤ x.val ∧ x.val < p.base.val + 2^(128 - p.poolLen) := by
  unfold Pool6.contains
  rw [beq_iff_eq]
  exact A6Arith.contains_iff _ _ _ (Nat.two_pow_pos _) g.alignW

/-- index of the page an address at or above the pool's base lies in -/
def Pool6.idx (p : Pool6) (x : Nat) : Nat := (x - p.base.val) / 2^(128 - p.page)

/-- page `j` starts at `blockBase j` and is `2^(128 - page)` wide -/
theorem Pool6.idx_eq_iff {x : Nat} (hx : p.base.val ≤ x) (j : Nat) :
    p.idx x = j ↔ p.blockBase j ≤ x ∧ x < p.blockBase j + 2^(128 - p.page) :=
  A6Arith.page_iff _ _ _ _ (Nat.two_pow_pos _) hx

theorem Pool6.idx_blockBase (p : Pool6) (i : Nat) : p.idx (p.blockBase i) = i := by
  unfold Pool6.idx Pool6.blockBase
  rw [Nat.add_sub_cancel_left, Nat.mul_div_cancel _ (Nat.two_pow_pos _)]

theorem Geo.idx_lt (g : Geo p) {x : Nat} (h1 : p.base.val ≤ x)
    (h2 : x < p.base.val + 2^(128 - p.poolLen)) : p.idx x < p.nblocks := by
  apply Nat.div_lt_of_lt_mul
  rw [Nat.mul_comm, ← g.width]
  exact Nat.sub_lt_left_of_lt_add h1 h2

theorem Geo.toIndex_ok (g : Geo p) (a : A6) (ha : a.pool = p) (x : Addr)
    (hc : p.contains x = true) :
    a.toIndex x = .ok (p.idx x.val) ∧ p.idx x.val < p.nblocks := by
  obtain ⟨h1, h2⟩ := (g.contains_iff x).mp hc
  have hlt := g.idx_lt h1 h2
  refine ⟨?_, hlt⟩
  subst ha
  unfold A6.toIndex
  have hal : a.pool.base.val % 2^(128 - a.pool.page) = 0 := Nat.mod_eq_zero_of_dvd g.alignK
  have h64 : (x.val - a.pool.base.val) / 2^(128 - a.pool.page) < 2^64 := Nat.lt_trans hlt g.nlt
  rw [C20_offset_exact x a.pool.base a.pool.page g.page_le hal h1, if_pos h64]
  simp only [BitVec.toNat_ofNat]
  rw [Nat.mod_eq_of_lt h64]
  rfl

/-- A block as the allocator hands them out: it starts at a page of the pool and is a prefix at
most a page long.  Its page is `p.idx b.base.val`. -/
structure Pool6.Owns (p : Pool6) (b : Block) : Prop where
  lt : p.idx b.base.val < p.nblocks
  base : b.base.val = p.blockBase (p.idx b.base.val)
  len : p.page ≤ b.len
  len_le : b.len ≤ 128

theorem Pool6.Owns.of_base {b : Block} {i : Nat} (hi : i < p.nblocks)
    (hv : b.base.val = p.blockBase i) (hl : p.page ≤ b.len) (hl2 : b.len ≤ 128) :
    p.Owns b ∧ p.idx b.base.val = i := by
  have e : p.idx b.base.val = i := by rw [hv, Pool6.idx_blockBase]
  exact ⟨⟨e.symm ▸ hi, e.symm ▸ hv, hl, hl2⟩, e⟩

/-- blocks of different pages do not meet -/
theorem Pool6.Owns.disjoint {b o : Block} (hb : p.Owns b) (ho : p.Owns o)
    (hne : p.idx b.base.val ≠ p.idx o.base.val) : b.disjoint o = true := by
  obtain ⟨_, hbb, hbl, _⟩ := hb
  obtain ⟨_, hob, hol, _⟩ := ho
  generalize p.idx b.base.val = i at hbb hne
  generalize p.idx o.base.val = j at hob hne
  unfold Block.disjoint Block.hi Block.lo
  rw [hbb, hob]
  unfold Pool6.blockBase
  have h1 := A6Arith.two_pow_sub_le 128 _ _ hbl
  have h2 := A6Arith.two_pow_sub_le 128 _ _ hol
  simp only [Bool.or_eq_true, decide_eq_true_eq]
  rcases Nat.lt_or_gt_of_ne hne with h | h
  · exact Or.inl (A6Arith.blk_sep _ _ _ _ _ h h1)
  · exact Or.inr (A6Arith.blk_sep _ _ _ _ _ h h2)

theorem Geo.owns_within (g : Geo p) {b : Block} (hb : p.Owns b) : b.within p.block = true := by
  unfold Block.within Pool6.block Block.lo Block.hi
  simp only [Bool.and_eq_true, decide_eq_true_eq]
  rw [hb.base]
  have h2 := A6Arith.two_pow_sub_le 128 _ _ hb.len
  exact ⟨Nat.le_add_right _ _, Nat.le_trans (Nat.add_le_add_left h2 _) (g.page_end_le _ hb.lt)⟩

theorem Geo.owns_aligned (g : Geo p) {b : Block} (hb : p.Owns b) :
    b.base.val % 2^(128 - p.page) = 0 := by
  rw [hb.base]
  exact Nat.mod_eq_zero_of_dvd (Nat.dvd_add g.alignK (Nat.dvd_mul_left _ _))

/-- the page of an outstanding block, as an interval, holds exactly the addresses of its index -/
theorem Pool6.Owns.unit_hasAddr_iff {o : Block} (ho : p.Owns o) {x : Nat} (hx : p.base.val ≤ x) :
    (p.unit o).hasAddr x = true ↔ p.idx x = p.idx o.base.val := by
  unfold Block.hasAddr Pool6.unit Block.hi Block.lo
  simp only [Bool.and_eq_true, decide_eq_true_eq]
  rw [Pool6.idx_eq_iff hx, ← ho.base]

theorem Geo.within_unit_contains (g : Geo p) {o : Block} (ho : p.Owns o) (P : Block)
    (h : P.within (p.unit o) = true) :
    p.base.val ≤ P.base.val ∧ P.base.val < p.base.val + 2^(128 - p.poolLen) := by
  unfold Block.within Pool6.unit Block.hi Block.lo at h
  simp only [Bool.and_eq_true, decide_eq_true_eq] at h
  have h1 := g.page_end_le _ ho.lt
  rw [← ho.base] at h1
  have h2 : 0 < 2^(128 - P.len) := Nat.two_pow_pos _
  have h3 : p.base.val ≤ o.base.val := by
    rw [ho.base]
    exact Nat.le_add_right _ _
  omega

theorem Geo.within_unit_iff (g : Geo p) {o : Block} (ho : p.Owns o) (P : Block)
    (hal : 2^(128 - P.len) ∣ P.base.val) (hl1 : p.page ≤ P.len)
    (hle : p.base.val ≤ P.base.val) :
    P.within (p.unit o) = true ↔ p.idx P.base.val = p.idx o.base.val := by
  unfold Block.within Pool6.unit Block.hi Block.lo
  simp only [Bool.and_eq_true, decide_eq_true_eq]
  rw [Pool6.idx_eq_iff hle, ← ho.base]
  have hU : 0 < 2^(128 - P.len) := Nat.two_pow_pos _
  constructor
  · rintro ⟨h1, h2⟩
    exact ⟨h1, by omega⟩
  · intro hb
    refine ⟨hb.1, ?_⟩
    have hUK : 2^(128 - P.len) ∣ 2^(128 - p.page) := Nat.pow_dvd_pow 2 (Nat.sub_le_sub_left hl1 128)
    have hd : 2^(128 - P.len) ∣ o.base.val + 2^(128 - p.page) := by
      rw [ho.base]
      exact Nat.dvd_add (Nat.dvd_add (Nat.dvd_trans hUK g.alignK)
        (Nat.dvd_trans hUK (Nat.dvd_mul_left _ _))) hUK
    exact A6Arith.aligned_room _ _ _ hal hd hb.2

theorem freedPrefix_aligned (ip : Addr) (ones : Nat) :
    2^(128 - (freedPrefix ip ones).len) ∣ (freedPrefix ip ones).base.val := by
  unfold freedPrefix
  simp only
  rw [maskAddr_val]
  exact Nat.dvd_mul_left _ _

end

theorem A6.hintIdx_eq_some_iff (a : A6) (h : Hint6) (i : Nat) :
    a.hintIdx h = some i ↔ ∃ x, h.ip = some x ∧ a.pool.contains x = true ∧
      a.toIndex x = .ok i ∧ a.bm.test i = false := by
  unfold A6.hintIdx
  cases h.ip with
  | none => exact ⟨nofun, fun ⟨_, hx, _⟩ => nomatch hx⟩
  | some x =>
    simp only [Option.some.injEq, exists_eq_left']
    cases hc : a.pool.contains x
    · exact ⟨nofun, fun h => nomatch h.1⟩
    · cases hi : a.toIndex x with
      | error e => exact ⟨nofun, fun h => nomatch h.2.1⟩
      | ok j =>
        simp only [if_true, Except.ok.injEq, true_and]
        constructor
        · intro e
          split at e
          · next ht =>
            cases e
            exact ⟨rfl, by simpa using ht⟩
          · cases e
        · rintro ⟨rfl, ht⟩
          rw [ht]
          rfl

/-- The five ways through Go's `Allocate`: the hint is honoured (`toPrefix` succeeds, or fails and
the bit stays set); else no clear bit ("no address available"), or the chosen clear bit `n`
(`toPrefix` succeeds, or fails: "BUG", and the bit is cleared again). -/
theorem A6.allocate_cases (a a' : A6) (h : Hint6) (c : Option Nat) (r : Except AErr Block)
    (hr : a.allocate h c = some (a', r)) :
    (∃ i, a.hintIdx h = some i ∧ a' = { a with bm := a.bm.set i } ∧
      ((∃ ip, a.toPrefix i = .ok ip ∧ r = .ok ⟨ip, a.reqSize h⟩) ∨
       (∃ e, a.toPrefix i = .error e ∧ r = .error .hintPrefix))) ∨
    (a.hintIdx h = none ∧
      ((c = none ∧ a.bm.full = true ∧ a' = a ∧ r = .error .noaddr) ∨
       (∃ n, c = some n ∧ n < a.bm.length ∧ a.bm.test n = false ∧
          ((∃ ip, a.toPrefix n = .ok ip ∧ a' = { a with bm := a.bm.set n } ∧
              r = .ok ⟨ip, a.reqSize h⟩) ∨
           (∃ e, a.toPrefix n = .error e ∧ a' = a ∧ r = .error .bug))))) := by
  unfold A6.allocate at hr
  simp only at hr
  cases hi : a.hintIdx h with
  | some i =>
    rw [hi] at hr
    simp only at hr
    refine Or.inl ⟨i, rfl, ?_⟩
    cases hp : a.toPrefix i with
    | ok ip =>
      rw [hp] at hr
      cases hr
      exact ⟨rfl, Or.inl ⟨ip, rfl, rfl⟩⟩
    | error e =>
      rw [hp] at hr
      cases hr
      exact ⟨rfl, Or.inr ⟨e, rfl, rfl⟩⟩
  | none =>
    rw [hi] at hr
    simp only at hr
    refine Or.inr ⟨rfl, ?_⟩
    cases c with
    | none =>
      simp only at hr
      split at hr
      · next hf =>
        cases hr
        exact Or.inl ⟨rfl, hf, rfl, rfl⟩
      · cases hr
    | some n =>
      simp only at hr
      split at hr
      · next hc =>
        refine Or.inr ⟨n, rfl, hc.1, by simpa using hc.2, ?_⟩
        cases hp : a.toPrefix n with
        | ok ip =>
          rw [hp] at hr
          cases hr
          exact Or.inl ⟨ip, rfl, rfl, rfl⟩
        | error e =>
          rw [hp] at hr
          cases hr
          exact Or.inr ⟨e, rfl, rfl, rfl⟩
      · cases hr

/-- The model is never stuck: the choice the current code makes (first fit) is admissible in
every state, so the theorems below are not vacuous for any operation sequence. -/
theorem A6.firstFit_admissible (a : A6) (h : Hint6) : (a.allocate h a.firstFit).isSome = true := by
  unfold A6.allocate A6.firstFit
  simp only
  split
  · split <;> rfl
  · cases hn : a.bm.nextClear with
    | none =>
      simp only
      rw [Bits.nextClear_none a.bm hn]
      rfl
    | some c =>
      obtain ⟨h1, h2⟩ := Bits.nextClear_some a.bm c hn
      simp only [h1, h2, Bool.not_false, and_self, if_true]
      split <;> rfl

theorem A6.free_eq (a : A6) (ip : Addr) (ones : Nat) : a.free ip ones =
    if !a.pool.contains (maskAddr ip ones) then (a, .error .notFound)
    else
      match a.toIndex (maskAddr ip ones) with
      | .error _ => (a, .error .notFound)
      | .ok idx =>
        if !a.bm.test idx then (a, .error .doubleFree)
        else ({ a with bm := a.bm.clear idx }, .ok ()) := rfl

theorem A6.free_cases (a : A6) (ip : Addr) (ones : Nat) :
    (a.free ip ones = (a, .error .notFound) ∧
      (a.pool.contains (maskAddr ip ones) = false ∨ ∃ e, a.toIndex (maskAddr ip ones) = .error e)) ∨
    (∃ d, a.pool.contains (maskAddr ip ones) = true ∧ a.toIndex (maskAddr ip ones) = .ok d ∧
      ((a.bm.test d = false ∧ a.free ip ones = (a, .error .doubleFree)) ∨
       (a.bm.test d = true ∧ a.free ip ones = ({ a with bm := a.bm.clear d }, .ok ())))) := by
  rw [A6.free_eq]
  generalize maskAddr ip ones = m
  cases hc : a.pool.contains m
  · exact Or.inl ⟨rfl, Or.inl rfl⟩
  · cases hi : a.toIndex m with
    | error e => exact Or.inl ⟨rfl, Or.inr ⟨e, rfl⟩⟩
    | ok d =>
      refine Or.inr ⟨d, rfl, rfl, ?_⟩
      cases ht : a.bm.test d
      · refine Or.inl ⟨rfl, ?_⟩
        simp only [ht, Bool.not_false, if_true]
        rfl
      · exact Or.inr ⟨rfl, by simp only [ht, Bool.not_true, Bool.false_eq_true, if_false]⟩

structure Inv6 (p : Pool6) (a : A6) (out : List Block) : Prop where
  pool : a.pool = p
  owns : ∀ b, b ∈ out → p.Owns b
  tracks : a.bm.Tracks (·) p.nblocks (out.map (fun b => p.idx b.base.val))

section
variable {p : Pool6} {a : A6} {out : List Block}

theorem Inv6.init (hnew : A6.new p = .ok a) : Inv6 p a [] := by
  unfold A6.new at hnew
  split at hnew
  · cases hnew
  · split at hnew
    · cases hnew
    · cases hnew
      exact ⟨rfl, nofun, Bits.Tracks.new _ _⟩

theorem Inv6.test (I : Inv6 p a out) (i : Nat) (hi : i < p.nblocks) :
    a.bm.test i = true ↔ ∃ b, b ∈ out ∧ p.idx b.base.val = i := by
  rw [I.tracks.test i hi, List.mem_map]

theorem Inv6.alloc_ok (I : Inv6 p a out) (b : Block) (hb : p.Owns b)
    (ht : a.bm.test (p.idx b.base.val) = false) :
    Inv6 p { a with bm := a.bm.set (p.idx b.base.val) } (b :: out) := by
  refine ⟨I.pool, ?_, I.tracks.set hb.lt ht fun _ _ h => h⟩
  intro b' hb'
  rcases List.mem_cons.mp hb' with rfl | hb'
  · exact hb
  · exact I.owns b' hb'

theorem A6.reqSize_eq_wantLen (a : A6) (h : Hint6) : a.reqSize h = a.pool.wantLen h := by
  unfold A6.reqSize Pool6.wantLen
  by_cases hb : h.bits = 128
  · by_cases ho : h.ones < a.pool.page
    · simp only [hb, ho, ne_eq, not_true, or_false, if_true]
      omega
    · simp only [hb, ho, ne_eq, not_true, or_false, if_true, if_false]
      omega
  · rw [if_pos (Or.inr hb), if_neg hb]

theorem A6.reqSize_ge (a : A6) (h : Hint6) : a.pool.page ≤ a.reqSize h := by
  unfold A6.reqSize
  split <;> omega

theorem A6.reqSize_le (a : A6) (h : Hint6) (hp : a.pool.page ≤ 128)
    (hh : h.bits = 128 → h.ones ≤ 128) : a.reqSize h ≤ 128 := by
  unfold A6.reqSize
  split
  · exact hp
  · rename_i hc
    apply hh
    apply Decidable.byContradiction
    intro hn
    exact hc (Or.inr hn)

theorem Inv6.hintIdx_some (g : Geo p) (I : Inv6 p a out)
    (h : Hint6) (i : Nat) (hh : a.hintIdx h = some i) :
    ∃ x, h.ip = some x ∧ p.base.val ≤ x.val ∧ p.idx x.val = i ∧
      i < p.nblocks ∧ a.bm.test i = false := by
  obtain ⟨x, hx, hc, hi, ht⟩ := (a.hintIdx_eq_some_iff h i).1 hh
  rw [I.pool] at hc
  obtain ⟨e, hlt⟩ := g.toIndex_ok a I.pool x hc
  obtain rfl := Except.ok.inj (e.symm.trans hi)
  exact ⟨x, hx, ((g.contains_iff x).mp hc).1, rfl, hlt, ht⟩

theorem Inv6.hintIdx_none (g : Geo p) (I : Inv6 p a out)
    (h : Hint6) (hh : a.hintIdx h = none) : p.hintNamesFree out h = false := by
  unfold Pool6.hintNamesFree
  cases hx : h.ip with
  | none => rfl
  | some x =>
    simp only
    by_cases hc : p.contains x = true
    · obtain ⟨e, hlt⟩ := g.toIndex_ok a I.pool x hc
      -- the bit of `x`'s page is set, else the hint path would have been taken
      have ht : a.bm.test (p.idx x.val) = true := by
        cases hb : a.bm.test (p.idx x.val)
        · have := (a.hintIdx_eq_some_iff h _).2 ⟨x, hx, I.pool ▸ hc, e, hb⟩
          rw [hh] at this
          cases this
        · rfl
      obtain ⟨b, hb, hbb⟩ := (I.test _ hlt).mp ht
      have hin := ((I.owns b hb).unit_hasAddr_iff ((g.contains_iff x).mp hc).1).mpr hbb.symm
      rw [Bool.and_eq_false_iff]
      right
      rw [List.all_eq_false]
      refine ⟨b, hb, ?_⟩
      rw [hin]
      exact Bool.false_ne_true
    · rw [Bool.and_eq_false_iff]
      left
      apply Bool.eq_false_iff.mpr
      intro hb
      apply hc
      rw [g.contains_iff x]
      unfold Block.hasAddr Pool6.block Block.lo Block.hi at hb
      rwa [Bool.and_eq_true, decide_eq_true_iff, decide_eq_true_iff] at hb

/-- `A6.allocate_cases` under the invariant: "no address available", or the block at a clear page
`i` (`toPrefix` does not fail) -/
theorem Inv6.allocate_cases_page {a' : A6} (g : Geo p)
    (I : Inv6 p a out) (h : Hint6) (c : Option Nat) (r : Except AErr Block)
    (hr : a.allocate h c = some (a', r)) :
    (a' = a ∧ r = .error .noaddr ∧ a.hintIdx h = none ∧ a.bm.full = true) ∨
    (∃ i, i < p.nblocks ∧ a.bm.test i = false ∧ (a.hintIdx h = some i ∨ a.hintIdx h = none) ∧
      a' = { a with bm := a.bm.set i } ∧
      r = .ok ⟨Addr.ofVal (p.blockBase i), a.reqSize h⟩) := by
  rcases A6.allocate_cases a a' h c r hr with
    ⟨i, hidx, ha, hres⟩ | ⟨hidx, ⟨_, hf, ha, hr⟩ | ⟨n, _, hn, ht, hres⟩⟩
  · obtain ⟨_, _, _, _, hi, ht⟩ := I.hintIdx_some g h i hidx
    rw [g.toPrefix_ok a I.pool i hi] at hres
    rcases hres with ⟨ip, hp, hr⟩ | ⟨e, hp, _⟩
    · cases hp
      exact Or.inr ⟨i, hi, ht, Or.inl hidx, ha, hr⟩
    · cases hp
  · exact Or.inl ⟨ha, hr, hidx, hf⟩
  · have hi : n < p.nblocks := I.tracks.len ▸ hn
    rw [g.toPrefix_ok a I.pool n hi] at hres
    rcases hres with ⟨ip, hp, ha, hr⟩ | ⟨e, hp, _⟩
    · cases hp
      exact Or.inr ⟨n, hi, ht, Or.inr hidx, ha, hr⟩
    · cases hp

/-- the same with the block as one the pool owns; the hint is in the domain (`hh`) -/
theorem Inv6.allocate_cases {a' : A6} (g : Geo p) (I : Inv6 p a out) (h : Hint6)
    (hh : h.bits = 128 → h.ones ≤ 128) (c : Option Nat) (r : Except AErr Block)
    (hr : a.allocate h c = some (a', r)) :
    (a' = a ∧ r = .error .noaddr ∧ a.hintIdx h = none ∧ a.bm.full = true) ∨
    (∃ b, p.Owns b ∧ b.len = a.reqSize h ∧ a.bm.test (p.idx b.base.val) = false ∧
      (a.hintIdx h = some (p.idx b.base.val) ∨ a.hintIdx h = none) ∧
      a' = { a with bm := a.bm.set (p.idx b.base.val) } ∧ r = .ok b) := by
  rcases I.allocate_cases_page g h c r hr with hi | ⟨i, hi, ht, hidx, ha, hr⟩
  · exact Or.inl hi
  · obtain ⟨hown, e⟩ := Pool6.Owns.of_base (b := ⟨Addr.ofVal (p.blockBase i), a.reqSize h⟩) hi
      (Addr.val_ofVal_of_lt (g.blockBase_lt_top i hi)) (I.pool ▸ a.reqSize_ge h) (a.reqSize_le h (I.pool ▸ g.page_le) hh)
    refine Or.inr ⟨_, hown, rfl, ?_⟩
    rw [e]
    exact ⟨ht, hidx, ha, hr⟩

/-- What the prefix plugin relies on after a successful `Allocate`. -/
theorem Inv6.allocate_ok (g : Geo p) (I : Inv6 p a out)
    (h : Hint6) (hh : h.bits = 128 → h.ones ≤ 128) (c : Option Nat) (a' : A6) (b : Block)
    (hr : a.allocate h c = some (a', .ok b)) :
    Inv6 p a' (b :: out) ∧ ∀ o, o ∈ out → b.disjoint o = true := by
  rcases I.allocate_cases g h hh c _ hr with ⟨_, hr, _⟩ | ⟨b', hown, hlen, ht, _, rfl, hb⟩
  · cases hr
  · obtain rfl := Except.ok.inj hb
    refine ⟨I.alloc_ok b hown ht, ?_⟩
    intro o ho
    apply hown.disjoint (I.owns o ho)
    intro e
    have := (I.test _ hown.lt).mpr ⟨o, ho, e.symm⟩
    rw [ht] at this
    cases this

theorem Inv6.allocate_error (g : Geo p)
    (I : Inv6 p a out) (h : Hint6) (c : Option Nat) (a' : A6) (e : AErr)
    (hr : a.allocate h c = some (a', .error e)) : Inv6 p a' out := by
  rcases I.allocate_cases_page g h c _ hr with ⟨rfl, _⟩ | ⟨_, _, _, _, _, hb⟩
  · exact I
  · cases hb

theorem Inv6.step_alloc (g : Geo p) (I : Inv6 p a out)
    (h : Hint6) (hh : h.bits = 128 → h.ones ≤ 128) (c : Option Nat) (a' : A6)
    (r : Except AErr Block) (hr : a.allocate h c = some (a', r)) :
    Inv6 p a' (Mon6.step p out (.alloc h r)).1 ∧ (Mon6.step p out (.alloc h r)).2.all = true := by
  rcases I.allocate_cases g h hh c r hr with
    ⟨rfl, rfl, hidx, hfull⟩ | ⟨b, hown, hlen, ht, hidx, ha, rfl⟩
  · refine ⟨I, (Verdict.all_iff _).2 ⟨rfl, decide_eq_true ?_, rfl, ?_⟩⟩
    · rw [← I.tracks.length_of_full hfull, List.length_map]
      exact Nat.le_refl _
    · show (!p.hintNamesFree out h) = true
      rw [I.hintIdx_none g h hidx]
      rfl
  · obtain ⟨I', h4⟩ := I.allocate_ok g h hh c a' _ hr
    refine ⟨I', (Verdict.all_iff _).2 ⟨List.all_eq_true.2 h4, ?_, rfl, ?_⟩⟩
    · simp only [Mon6.step, Bool.and_eq_true, beq_iff_eq, decide_eq_true_eq]
      refine ⟨⟨⟨⟨?_, g.owns_aligned hown⟩, g.owns_within hown⟩, hown.len⟩, hown.len_le⟩
      rw [hlen, A6.reqSize_eq_wantLen, I.pool]
    · simp only [Mon6.step]
      split
      · rename_i x hx
        refine imp_bool _ _ fun hn => ?_
        rcases hidx with hidx | hidx
        · obtain ⟨x', hx', hxle, hxi, _⟩ := I.hintIdx_some g h _ hidx
          obtain rfl := Option.some.inj (hx.symm.trans hx')
          exact (hown.unit_hasAddr_iff hxle).mpr hxi
        · rw [I.hintIdx_none g h hidx] at hn
          cases hn
      · rfl

theorem Inv6.free_ok (I : Inv6 p a out)
    (d : Nat) (hd : d < p.nblocks) (ht : a.bm.test d = true) :
    Inv6 p { a with bm := a.bm.clear d } (out.filter (fun o => p.idx o.base.val != d)) := by
  refine ⟨I.pool, fun b hb => I.owns b (List.mem_filter.mp hb).1, ?_⟩
  rw [show (fun o : Block => p.idx o.base.val != d) = ((· != d) ∘ fun b => p.idx b.base.val)
    from rfl, ← List.filter_map]
  exact I.tracks.clear hd ht fun _ _ h => h

theorem Inv6.step_free (g : Geo p) (I : Inv6 p a out)
    (ip : Addr) (ones : Nat) (h1 : p.page ≤ ones) :
    Inv6 p (a.free ip ones).1 (Mon6.step p out (.free ip ones (a.free ip ones).2)).1 ∧
      (Mon6.step p out (.free ip ones (a.free ip ones).2)).2.all = true := by
  have hpool := I.pool
  subst hpool
  rcases a.free_cases ip ones with ⟨hf, hnc⟩ | ⟨d, hc, hi, hf⟩
  · -- not in the pool, so within no outstanding block
    have hc : ¬ a.pool.contains (maskAddr ip ones) = true := by
      rcases hnc with h | ⟨e, he⟩
      · rw [h]
        exact Bool.false_ne_true
      · intro hc
        rw [(g.toIndex_ok a rfl (maskAddr ip ones) hc).1] at he
        cases he
    rw [hf]
    refine ⟨I, (Verdict.all_iff _).2 ⟨rfl, rfl, ?_, rfl⟩⟩
    show (!out.any fun o => (freedPrefix ip ones).within (a.pool.unit o)) = true
    rw [Bool.not_eq_true', List.any_eq_false]
    intro o ho hwo
    exact hc ((g.contains_iff (maskAddr ip ones)).mpr
      (g.within_unit_contains (I.owns o ho) (freedPrefix ip ones) hwo))
  · obtain ⟨e, hlt⟩ := g.toIndex_ok a rfl (maskAddr ip ones) hc
    have hd := Except.ok.inj (hi.symm.trans e)
    -- for an outstanding block, "the freed prefix is within its page" is "same page index"
    have hw : ∀ o, o ∈ out → ((freedPrefix ip ones).within (a.pool.unit o) = true ↔
        a.pool.idx o.base.val = d) := by
      intro o ho
      rw [g.within_unit_iff (I.owns o ho) (freedPrefix ip ones) (freedPrefix_aligned ip ones) h1
        ((g.contains_iff (maskAddr ip ones)).mp hc).1, hd]
      exact eq_comm
    rw [← hd] at hlt
    rcases hf with ⟨ht, hf⟩ | ⟨ht, hf⟩ <;> rw [hf]
    · -- double free: nothing outstanding there
      refine ⟨I, (Verdict.all_iff _).2 ⟨rfl, rfl, ?_, rfl⟩⟩
      show (!out.any fun o => (freedPrefix ip ones).within (a.pool.unit o)) = true
      rw [Bool.not_eq_true', List.any_eq_false]
      intro o ho hwo
      have := (I.tracks.test d hlt).mpr (List.mem_map.mpr ⟨o, ho, (hw o ho).mp hwo⟩)
      rw [ht] at this
      cases this
    · -- freed: the blocks within the freed prefix are those of page `d`
      have hfil : out.filter (fun o => !((freedPrefix ip ones).within (a.pool.unit o))) =
          out.filter (fun o => a.pool.idx o.base.val != d) := by
        apply List.filter_congr
        intro o ho
        rw [Bool.eq_iff_iff, Bool.not_eq_true', bne_iff_ne, ne_eq, ← hw o ho, Bool.not_eq_true]
      refine ⟨?_, (Verdict.all_iff _).2 ⟨rfl, rfl, ?_, rfl⟩⟩
      · show Inv6 a.pool _ (out.filter fun o => !(freedPrefix ip ones).within (a.pool.unit o))
        rw [hfil]
        exact I.free_ok d hlt ht
      · obtain ⟨b, hb, hbd⟩ := List.mem_map.mp ((I.tracks.test d hlt).mp ht)
        exact List.any_eq_true.2 ⟨b, hb, (hw b hb).mpr hbd⟩

end

/-! `A6.run` destructures `a.free ip ones` with a `match` on a pair.  Whatever puts that discriminant
in weak-head normal form (`rw [A6.run]`, `unfold`, a `show` with the `match` written out) starts
unfolding `Nat.div` / `Nat.decEq` on open terms and does not return, so `A6.run` has no usable
equation lemmas.  `run'` is `A6.run` with `Free` as a parameter, built from the same matcher
constants, so that `A6.run = A6.run' A6.free` is checked argument by argument.  The names
`A6.run.match_7/_3/_1/_5` are numbered by Lean: after an edit of Spec/Alloc.lean read them off
`#print A6.run` again. -/

def A6.run' (fre : A6 → Addr → Nat → A6 × Except FErr Unit) (a : A6)
    (ops : List Op6) (cs : List (Option Nat)) : Option (List Ev6 × A6) :=
  A6.run.match_7 (fun _ _ => Option (List Ev6 × A6)) ops cs
    (fun _ => some ([], a))
    (fun h ops c cs =>
      A6.run.match_3 (fun _ => Option (List Ev6 × A6)) (a.allocate h c) (fun _ => none) fun a' r =>
        Option.map (fun x => A6.run.match_1 (fun _ => List Ev6 × A6) x
          fun evs z => (Ev6.alloc h r :: evs, z)) (A6.run' fre a' ops cs))
    (fun _ _ => none)
    (fun ip ones ops cs =>
      A6.run.match_5 (fun _ => Option (List Ev6 × A6)) (fre a ip ones) fun a' r =>
        Option.map (fun x => A6.run.match_1 (fun _ => List Ev6 × A6) x
          fun evs z => (Ev6.free ip ones r :: evs, z)) (A6.run' fre a' ops cs))
termination_by structural ops

-- with smart unfolding neither side unfolds (`ops` is a variable) and `rfl` fails; without it both are their
-- structural recursions over `ops`, which coincide
set_option smartUnfolding false in
theorem A6.run_eq_run' (a : A6) (ops : List Op6) (cs : List (Option Nat)) :
    A6.run a ops cs = A6.run' A6.free a ops cs := rfl

section
variable {fre : A6 → Addr → Nat → A6 × Except FErr Unit} {a z : A6} {ops : List Op6}
  {cs : List (Option Nat)} {evs : List Ev6}

theorem A6.run'_nil_some (hrun : A6.run' fre a [] cs = some (evs, z)) : evs = [] := by
  rw [run'] at hrun
  cases hrun
  rfl

theorem A6.run'_alloc_some {h : Hint6} (hrun : A6.run' fre a (.alloc h :: ops) cs = some (evs, z)) :
    ∃ c cs' a' r evs', cs = c :: cs' ∧ a.allocate h c = some (a', r) ∧
      evs = .alloc h r :: evs' ∧ A6.run' fre a' ops cs' = some (evs', z) := by
  cases cs with
  | nil =>
    rw [run'] at hrun
    cases hrun
  | cons c cs' =>
    rw [run'] at hrun
    cases hal : a.allocate h c with
    | none =>
      rw [hal] at hrun
      cases hrun
    | some ar =>
      obtain ⟨a', r⟩ := ar
      rw [hal] at hrun
      obtain ⟨evs', rfl, hrun'⟩ := map_cons_eq_some hrun
      exact ⟨c, cs', a', r, evs', rfl, hal, rfl, hrun'⟩

theorem A6.run'_free_some {ip : Addr} {ones : Nat}
    (hrun : A6.run' fre a (.free ip ones :: ops) cs = some (evs, z)) :
    ∃ evs', evs = .free ip ones (fre a ip ones).2 :: evs' ∧
      A6.run' fre (fre a ip ones).1 ops cs = some (evs', z) := by
  rw [run'] at hrun
  exact map_cons_eq_some hrun

end

theorem Inv6.run {p : Pool6} (g : Geo p) (ops : List Op6) :
    ∀ (a : A6) (out : List Block) (cs : List (Option Nat)) (evs : List Ev6) (z : A6),
      Inv6 p a out → ops.all (Op6.inDomain p) = true →
      A6.run' A6.free a ops cs = some (evs, z) → (Mon6.run p out evs).all Verdict.all = true := by
  induction ops with
  | nil =>
    intro a out cs evs z _ _ hrun
    rw [A6.run'_nil_some hrun]
    rfl
  | cons op ops ih =>
    intro a out cs evs z I hdom hrun
    rw [List.all_cons, Bool.and_eq_true] at hdom
    have hd := hdom.1
    cases op with
    | alloc h =>
      obtain ⟨c, cs', a', r, evs', rfl, hal, rfl, hrun'⟩ := A6.run'_alloc_some hrun
      simp only [Op6.inDomain, decide_eq_true_eq] at hd
      obtain ⟨I', hv⟩ := I.step_alloc g h (fun hb => hb ▸ hd) c a' r hal
      simp only [Mon6.run, List.all_cons, Bool.and_eq_true]
      exact ⟨hv, ih a' _ cs' evs' z I' hdom.2 hrun'⟩
    | free ip ones =>
      obtain ⟨evs', rfl, hrun'⟩ := A6.run'_free_some hrun
      simp only [Op6.inDomain, Bool.and_eq_true, decide_eq_true_eq] at hd
      obtain ⟨I', hv⟩ := I.step_free g ip ones hd.1
      simp only [Mon6.run, List.all_cons, Bool.and_eq_true]
      exact ⟨hv, ih _ _ cs evs' z I' hdom.2 hrun'⟩

/-- Every run of the IPv6 allocator model from a freshly created well-formed pool, under any
admissible sequence of choices and any in-domain operations, passes all four monitors at
every step. -/
theorem A6.run_verdicts (p : Pool6) (hp : p.WF) (a : A6) (hnew : A6.new p = .ok a)
    (ops : List Op6) (cs : List (Option Nat)) (evs : List Ev6) (z : A6)
    (hdom : ops.all (Op6.inDomain p) = true)
    (hrun : A6.run a ops cs = some (evs, z)) :
    (Mon6.run p [] evs).all Verdict.all = true := by
  rw [A6.run_eq_run'] at hrun
  exact Inv6.run (Geo.of_WF hp) ops a [] cs evs z (Inv6.init hnew) hdom hrun

end CoreDhcp
