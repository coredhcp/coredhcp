/-
The dispatch logic composed with the models of the built-in plugins (Model/System.lean), for DHCPv4 (`Sys.serve4`):
the lemmas behind Props/System.lean and behind Proofs/ServerState.lean, Props/ServerState.lean.
-/
import CoreDhcp.Model.System
import CoreDhcp.Proofs.Chain
import CoreDhcp.Proofs.Dispatch
import CoreDhcp.Proofs.OptPlug
namespace CoreDhcp
open Sys
open Plug (Bytes Opts lookup upd4)

/-- the option codes a DHCPv4 element may write -/
def Sys.owned4 : Elem4 → List Nat
  | .plug (.dns _) => [6] | .plug (.mtu _) => [26] | .plug (.netmask _) => [1] | .plug (.router _) => [3]
  | .plug (.leasetime _) => [51] | .plug (.search _) => [119] | .plug (.staticroute _) => [121]
  | .plug (.ipv6only _) => [108] | .plug (.autoconfigure _) => [116] | .plug (.nbp _) => [66, 67]
  | .plug (.sleep _) => [] | .plug (.serverid _) => [54] | .file _ => [] | .lease _ => [51]

theorem be4_eq_be (a : BitVec 32) : be4 a = Plug.be 4 a.toNat := by
  rw [be4, Plug.be, Plug.be, Plug.be, Plug.be, Plug.be, Nat.pow_zero, Nat.div_one]

theorem be4_inj (a b : BitVec 32) (h : be4 a = be4 b) : a = b := by
  rw [be4_eq_be, be4_eq_be] at h
  exact BitVec.eq_of_toNat_eq (Plug.be_inj 4 _ _ a.isLt b.isLt h)

theorem handle4_none (e : Elem4) (req : Sys.Req4) : handle4 e req none = (none, true) := by
  cases e <;> rfl

theorem handle4_plug (c : Plug.Cfg4) (req : Sys.Req4) (r : Sys.Resp4) :
    handle4 (.plug c) req (some r) =
      match Plug.plugHandle4 c (viewReq4 req) (viewResp4 r) with
      | (none, stop) => (none, stop)
      | (some p, stop) => (some (putResp4 r p), stop) := rfl

theorem handle4_file (t : FTable) (req : Sys.Req4) (r : Sys.Resp4) :
    handle4 (.file t) req (some r) =
      match t.get req.chaddr with
      | some (.v4 a) => (some { r with yiaddr := be4 a }, true)
      | _ => (some r, false) := rfl

theorem handle4_plug_some (c : Plug.Cfg4) (req : Sys.Req4) (r x : Sys.Resp4)
    (h : (handle4 (.plug c) req (some r)).1 = some x) :
    ∃ p stop, Plug.plugHandle4 c (viewReq4 req) (viewResp4 r) = (some p, stop) ∧ x = putResp4 r p := by
  rw [handle4_plug] at h
  split at h
  · cases h
  · next p stop hp => cases h; exact ⟨p, stop, hp, rfl⟩

theorem owned4_plug (c : Plug.Cfg4) : owned4 (.plug c) = Plug.writes4 c := by cases c <;> rfl

theorem neverStops4_plug (c : Plug.Cfg4) : neverStops4 (.plug c) = !Plug.stops4 c := by cases c <;> rfl

/-- no built-in plugin writes `yiaddr`; none but `server_id` writes `siaddr` -/
theorem plug_addrs4 (cfg : Plug.Cfg4) (req : Plug.ReqView4) (pre r : Plug.Resp4) (stop : Bool)
    (h : Plug.plugHandle4 cfg req pre = (some r, stop)) :
    r.yiaddr = pre.yiaddr ∧ ((∀ c, cfg ≠ .serverid c) → r.siaddr = pre.siaddr) := by
  have hw := plugHandle4_within cfg req pre r stop h
  refine ⟨hw.yiaddr, fun hne => hw.siaddr ?_⟩
  cases cfg with
  | serverid a => exact absurd rfl (hne a)
  | _ => simp only [Plug.writes4]; decide

theorem leasetime_keeps (cfg : Plug.leasetime.Cfg) (req : Plug.ReqView4) (pre r : Plug.Resp4) (stop : Bool)
    (h : Plug.leasetime.handle cfg req pre = (some r, stop)) (v : Bytes) (hv : lookup 51 pre.opts = some v) :
    lookup 51 r.opts = some v := by
  -- with an option 51 there both branches return `pre`
  rw [Plug.leasetime.handle, hv, Option.isSome_some, if_pos rfl, ite_self] at h
  cases h
  exact hv

/-- What an element may change of the response `r` it is handed: only what a plugin can change (`yiaddr`, `siaddr`, the
options); of the options only those of the codes it owns, `siaddr` only as `server_id`, `yiaddr` only as `file` or `range`;
and an option 51 that is there stays as it is (`lease_time` owns the code but writes it only where there is none) unless
the element is `range`. -/
structure Sys.Within4 (e : Elem4) (r x : Sys.Resp4) : Prop where
  put : x = putResp4 r (viewResp4 x)
  -- stands before the other fields that mention `e`: behind them `match e` is elaborated with those fields as extra
  -- discriminants, a term other than the `match` in `hfile` of `SYS_C02_addr4`
  yiaddr : (match e with | .file _ => false | _ => true) = true → isLease e = false → x.yiaddr = r.yiaddr
  siaddr : isServerId4 e = false → x.siaddr = r.siaddr
  opts {c : Nat} : c ∉ owned4 e → lookup c x.opts = lookup c r.opts
  keeps51 : isLease e = false → ∀ v, lookup 51 r.opts = some v → lookup 51 x.opts = some v

/-- `plugHandle4_frame` for the elements of the chain: an element hands no response on and ends the chain, or hands on
`r` changed within its limits; one for which `neverStops4` holds does the latter and goes on. -/
theorem handle4_frame (e : Elem4) (req : Sys.Req4) (r : Sys.Resp4) :
    HandlerFrame (Sys.Within4 e r) (!neverStops4 e) (handle4 e req (some r)) := by
  cases e with
  | plug c =>
    have hf := plugHandle4_frame c (viewReq4 req) (viewResp4 r)
    rw [handle4_plug, neverStops4_plug, Bool.not_not]
    cases hp : Plug.plugHandle4 c (viewReq4 req) (viewResp4 r) with
    | mk o stop =>
      rw [hp] at hf
      cases o with
      | none => exact hf
      | some p =>
        have ha := plug_addrs4 c _ _ p stop hp
        have h51 : ∀ v, lookup 51 (viewResp4 r).opts = some v → lookup 51 p.opts = some v := by
          cases c with
          | leasetime d => exact leasetime_keeps d _ _ p stop hp
          | _ =>
            intro v hv
            refine (hf.1.opts ?_).trans hv
            simp [Plug.writes4]
        exact ⟨{ put := rfl
                 yiaddr := fun _ _ => ha.1
                 siaddr := fun hns => ha.2 fun c' hc => nomatch hc ▸ hns
                 opts := fun hc => hf.1.opts (owned4_plug c ▸ hc)
                 keeps51 := fun _ => h51 }, hf.2⟩
  | file t =>
    rw [handle4_file]
    split
    · exact .stop { put := rfl, yiaddr := nofun, siaddr := fun _ => rfl, opts := fun _ => rfl, keeps51 := fun _ _ hv => hv }
    · exact .go { put := rfl, yiaddr := fun _ _ => rfl, siaddr := fun _ => rfl, opts := fun _ => rfl, keeps51 := fun _ _ hv => hv }
  | lease out =>
    cases out with
    | none => exact .drop
    | some p =>
      exact .go { put := rfl
                  yiaddr := fun _ => nofun
                  siaddr := fun _ => rfl
                  opts := fun hc => lookup_upd4_other 51 _ _ _ fun h51 => hc (h51 ▸ List.mem_singleton_self 51)
                  keeps51 := nofun }

theorem handle4_within (e : Elem4) (req : Sys.Req4) (r x : Sys.Resp4) (h : (handle4 e req (some r)).1 = some x) :
    Sys.Within4 e r x :=
  (handle4_frame e req r).of_some (Prod.ext h rfl)

/-- `owned4` read by code: nobody owns the echoed options 82, 61 and 53; only `server_id` owns 54 -/
theorem owned4_table (e : Elem4) :
    (82 ∉ owned4 e ∧ 61 ∉ owned4 e ∧ 53 ∉ owned4 e) ∧ (isServerId4 e = false → 54 ∉ owned4 e) := by
  cases e with
  | file t => simp [owned4]
  | lease o => simp [owned4]
  | plug c => cases c <;> simp [owned4, isServerId4]

theorem not_owned_echo (e : Elem4) : 82 ∉ owned4 e ∧ 61 ∉ owned4 e ∧ 53 ∉ owned4 e := (owned4_table e).1

theorem not_serverid_54 (e : Elem4) (h : isServerId4 e = false) : 54 ∉ owned4 e := (owned4_table e).2 h

theorem neverStops4_continues (e : Elem4) (he : neverStops4 e = true) (req : Sys.Req4) (r : Sys.Resp4) :
    ∃ r', handle4 e req (some r) = (some r', false) :=
  HandlerFrame.exists_some (by simpa only [he, Bool.not_true] using handle4_frame e req r)

theorem neverStops4_all (pre : List Elem4) (hpre : pre.all neverStops4 = true) (req : Sys.Req4) :
    ∀ e ∈ pre, ∀ r, ∃ r', handle4 e req (some r) = (some r', false) :=
  fun e he => neverStops4_continues e (List.all_eq_true.mp hpre e he) req

/-- neither a plugin that never ends the chain nor `range` (which drops the request or hands a response on)
ends the chain with a response -/
theorem no_stop_with_resp4 (e : Elem4) (he : (neverStops4 e || isLease e) = true) (req : Sys.Req4) (r r' : Sys.Resp4) :
    handle4 e req (some r) ≠ (some r', true) := by
  intro hc
  cases hn : neverStops4 e with
  | true =>
    obtain ⟨x, hx⟩ := neverStops4_continues e hn req r
    cases hx.symm.trans hc
  | false =>
    rw [hn, Bool.false_or] at he
    cases e with
    | plug c => cases he
    | file t => cases he
    | lease o => cases o <;> cases hc

theorem file_stops4 (t : FTable) (req : Sys.Req4) (a : BitVec 32) (h : t.get req.chaddr = some (.v4 a))
    (r : Option Sys.Resp4) : (handle4 (.file t) req r).2 = true := by
  cases r with
  | none => rfl
  | some r => rw [handle4_file, h]

theorem putResp4_putResp4 (r : Sys.Resp4) (p q : Plug.Resp4) : putResp4 (putResp4 r p) q = putResp4 r q := rfl

theorem chain4_put (chain : List Elem4) (req : Sys.Req4) (r0 resp : Sys.Resp4)
    (hc : (runChain (chain.map handle4) req 0 (some r0)).1 = some resp) : resp = putResp4 r0 (viewResp4 resp) := by
  refine chain_induct handle4 handle4_none (fun x => x = putResp4 r0 (viewResp4 x)) chain req ?_ r0 resp rfl hc
  intro e _ y x hy hx
  have := (handle4_within e req y x hx).put
  rw [hy, putResp4_putResp4] at this
  exact this

theorem chain4_frame (chain : List Elem4) (req : Sys.Req4) (r0 resp : Sys.Resp4)
    (hc : (runChain (chain.map handle4) req 0 (some r0)).1 = some resp) (c : Nat) (hn : ∀ e ∈ chain, c ∉ owned4 e) :
    lookup c resp.opts = lookup c r0.opts :=
  chain_induct handle4 handle4_none (fun x => lookup c x.opts = lookup c r0.opts) chain req
    (fun e he y x hy hx => ((handle4_within e req y x hx).opts (hn e he)).trans hy) r0 resp rfl hc

theorem getNonEmpty_congr (c : Nat) (o o' : Opts) (h : lookup c o = lookup c o') :
    getNonEmpty c o = getNonEmpty c o' := by
  unfold getNonEmpty; rw [h]

theorem mtOf_congr (o o' : Opts) (h : lookup 53 o = lookup 53 o') : mtOf o = mtOf o' := by
  unfold mtOf; rw [h]

/-- what `HandleMsg4`'s own decisions see of the response a chain returns is, but for `yiaddr`, what they
see of the response it was run on: no element owns option 82, 61 or 53 -/
theorem chain4_abs (chain : List Elem4) (req : Sys.Req4) (r0 resp : Sys.Resp4)
    (hc : (runChain (chain.map handle4) req 0 (some r0)).1 = some resp) :
    absResp4 resp = { absResp4 r0 with yiaddr := ip32 resp.yiaddr } := by
  have hf := fun c h => chain4_frame chain req r0 resp hc c h
  rw [chain4_put chain req r0 resp hc]
  simp only [absResp4, putResp4, viewResp4,
    mtOf_congr _ _ (hf 53 fun e _ => (not_owned_echo e).2.2),
    getNonEmpty_congr 82 _ _ (hf 82 fun e _ => (not_owned_echo e).1),
    getNonEmpty_congr 61 _ _ (hf 61 fun e _ => (not_owned_echo e).2.1)]

/-- the part of `serve4` after the chain returned `some resp` -/
def Sys.deliverS4 (bound : Nat) (oob : Option Nat) (req : Sys.Req4) (resp : Sys.Resp4) : Sys.Out4 :=
  let p := peer4 (absReq4 req) (absResp4 resp)
  let needPin := p.1 == bcast4 || isLinkLocal4 p.1 || p.2.2
  let woob := if needPin then pin bound oob else none
  if p.2.2 && woob.isNone then .panicNoIf
  else .send resp p.1 p.2.1 woob p.2.2

theorem serve4_stub_none (bound : Nat) (oob : Option Nat) (chain : List Elem4) (req : Sys.Req4)
    (h0 : Sys.stub4 req = none) : serve4 bound oob chain (some req) = .drop := by
  simp only [serve4, h0]

theorem serve4_eq (bound : Nat) (oob : Option Nat) (chain : List Elem4) (req : Sys.Req4) (r0 : Sys.Resp4)
    (h0 : Sys.stub4 req = some r0) :
    serve4 bound oob chain (some req) =
      match (runChain (chain.map handle4) req 0 (some r0)).1 with
      | none => .drop
      | some resp => deliverS4 bound oob req resp := by
  simp only [serve4, h0]
  rfl

theorem absOut4_deliver (bound : Nat) (oob : Option Nat) (req : Sys.Req4) (resp : Sys.Resp4) :
    absOut4 (deliverS4 bound oob req resp) = deliver4 bound oob (absReq4 req) (absResp4 resp) := by
  unfold deliverS4 deliver4
  dsimp only
  generalize ((peer4 (absReq4 req) (absResp4 resp)).2.2 && _) = c
  cases c <;> rfl

theorem deliverS4_cases (bound : Nat) (oob : Option Nat) (req : Sys.Req4) (resp : Sys.Resp4) :
    deliverS4 bound oob req resp = .panicNoIf ∨
    ∃ peer port ifidx l2, deliverS4 bound oob req resp = .send resp peer port ifidx l2 := by
  unfold deliverS4
  dsimp only
  generalize ((peer4 (absReq4 req) (absResp4 resp)).2.2 && _) = c
  cases c
  · exact .inr ⟨_, _, _, _, rfl⟩
  · exact .inl rfl

theorem serve4_send (bound : Nat) (oob : Option Nat) (chain : List Elem4) (req : Sys.Req4)
    (resp : Sys.Resp4) (peer : BitVec 32) (port : Nat) (ifidx : Option Nat) (l2 : Bool)
    (h : serve4 bound oob chain (some req) = .send resp peer port ifidx l2) :
    ∃ r0, Sys.stub4 req = some r0 ∧ (runChain (chain.map handle4) req 0 (some r0)).1 = some resp := by
  cases h0 : Sys.stub4 req with
  | none => rw [serve4_stub_none bound oob chain req h0] at h; cases h
  | some r0 =>
    rw [serve4_eq bound oob chain req r0 h0] at h
    split at h
    · cases h
    · next resp' hc =>
      rcases deliverS4_cases bound oob req resp' with hd | ⟨_, _, _, _, hd⟩
      · rw [hd] at h; cases h
      · rw [hd] at h; cases h
        exact ⟨r0, rfl, hc⟩

theorem serve4_reach (bound : Nat) (oob : Option Nat) (pre post : List Elem4) (e : Elem4) (req : Sys.Req4)
    (hpre : pre.all neverStops4 = true)
    (resp : Sys.Resp4) (peer : BitVec 32) (port : Nat) (ifidx : Option Nat) (l2 : Bool)
    (hs : serve4 bound oob (pre ++ e :: post) (some req) = .send resp peer port ifidx l2) :
    ∃ r0 mid x, Sys.stub4 req = some r0 ∧ (runChain (pre.map handle4) req 0 (some r0)).1 = some mid ∧
      (handle4 e req (some mid)).1 = some x ∧
      ∀ P : Sys.Resp4 → Prop, P x → (∀ e' ∈ post, ∀ r y, P r → (handle4 e' req (some r)).1 = some y → P y) → P resp := by
  obtain ⟨r0, h0, hc⟩ := serve4_send bound oob _ req resp peer port ifidx l2 hs
  obtain ⟨mid, x, h⟩ := chain_reach handle4 handle4_none req pre post e (neverStops4_all pre hpre req) r0 resp hc
  exact ⟨r0, mid, x, h0, h⟩

theorem serve4_drop (bound : Nat) (oob : Option Nat) (pre post : List Elem4) (e : Elem4) (req : Sys.Req4)
    (hpre : pre.all neverStops4 = true) (he : ∀ mid, (handle4 e req (some mid)).1 = none) :
    serve4 bound oob (pre ++ e :: post) (some req) = .drop := by
  cases h0 : Sys.stub4 req with
  | none => exact serve4_stub_none bound oob _ req h0
  | some r0 =>
    rw [serve4_eq bound oob _ req r0 h0,
      chain_drop handle4 handle4_none req pre post e (neverStops4_all pre hpre req) r0 he]

theorem lookup_copyOpt_other (c c' : Nat) (req : Sys.Req4) (o : Opts) (h : c' ≠ c) :
    lookup c' (copyOpt c req o) = lookup c' o := by
  unfold copyOpt
  split
  · exact lookup_upd4_other c c' _ o h
  · rfl

theorem getNonEmpty_copyOpt_same (c : Nat) (req : Sys.Req4) (o : Opts) (ho : lookup c o = none) :
    getNonEmpty c (copyOpt c req o) = getNonEmpty c req.opts := by
  unfold copyOpt
  split
  · next v hv =>
    rw [hv]
    unfold getNonEmpty at hv ⊢
    rw [lookup_upd4_same]
    split at hv
    · cases hv; rfl
    · cases hv
  · next hv =>
    rw [hv]
    unfold getNonEmpty
    rw [ho]

theorem stub4_abs (req : Sys.Req4) : CoreDhcp.stub4 (absReq4 req) = (Sys.stub4 req).map absResp4 := by
  have h82 : ∀ mt, getNonEmpty 82 (upd4 53 [mt] (copyOpt 61 req (copyOpt 82 req []))) = getNonEmpty 82 req.opts := by
    intro mt
    have : lookup 82 (upd4 53 [mt] (copyOpt 61 req (copyOpt 82 req []))) = lookup 82 (copyOpt 82 req []) := by
      rw [lookup_upd4_other 53 82 _ _ (by decide), lookup_copyOpt_other 61 82 req _ (by decide)]
    rw [getNonEmpty_congr 82 _ _ this]
    exact getNonEmpty_copyOpt_same 82 req [] rfl
  have h61 : ∀ mt, getNonEmpty 61 (upd4 53 [mt] (copyOpt 61 req (copyOpt 82 req []))) = getNonEmpty 61 req.opts := by
    intro mt
    have : lookup 61 (copyOpt 82 req []) = none := lookup_copyOpt_other 82 61 req _ (by decide)
    rw [getNonEmpty_congr 61 _ _ (lookup_upd4_other 53 61 _ _ (by decide))]
    exact getNonEmpty_copyOpt_same 61 req _ this
  have h53 : ∀ mt o, mtOf (upd4 53 [mt] o) = mt := fun mt o => by rw [mtOf, lookup_upd4_same]
  -- both texts test the same guards; they differ at the two `some` leaves, where the prepared reply is abstracted
  unfold CoreDhcp.stub4 Sys.stub4
  simp only [apply_ite (Option.map absResp4), Option.map_some, Option.map_none, absResp4, h82, h61, h53]
  rfl

/-- `stub4_some` of Proofs/Dispatch.lean through `stub4_abs` -/
theorem stub4_sys_some (req : Sys.Req4) (r0 : Sys.Resp4) (h0 : Sys.stub4 req = some r0) :
    req.op = 1 ∧ r0.chaddr = req.chaddr := by
  obtain ⟨h1, _, e, _⟩ := stub4_some (absReq4 req) (absResp4 r0) (by rw [stub4_abs, h0]; rfl)
  exact ⟨h1, echo4_chaddr _ _ e⟩

end CoreDhcp
