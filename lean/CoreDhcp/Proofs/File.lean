/-
Lemmas for C10 (the static-lease `file` plugin against its monitor).
`loadFile` is read one line at a time: a line is accepted or rejects the file (`FLine.ok`), and an accepted line does to the
table what `FLine.apply` says; acceptance and the accepted table (look-ups answer as `listedFor`) are two-case inductions
over that equation.  `FState.load` is used through its two equations.  `Inv` says that both tables answer as the files in
force list; every operation keeps it and passes the monitor.  At the end, the model of `setupFile` (Model/FileSetup.lean):
when a set-up succeeds, and that a loop which re-watches at every replacement keeps its watch.
-/
import CoreDhcp.Spec.File
import CoreDhcp.Model.FileSetup
import CoreDhcp.Proofs.ListLemmas
namespace CoreDhcp

def FLine.apply : FLine → FTable → FTable
  | .fields _ (some m) ip, t => t.put m ip
  | _, t => t

namespace FileAux

theorem loadFile_cons (v6 : Bool) (l : FLine) (rest : List FLine) (t : FTable) :
    loadFile v6 (l :: rest) t = if FLine.ok v6 l then loadFile v6 rest (l.apply t) else none := by
  cases l with
  | empty => rfl
  | comment => rfl
  | fields n mac ip =>
    by_cases hn : n = 2
    · subst hn
      cases mac with
      | none => rfl
      | some m => cases v6 <;> cases ip <;> rfl
    · rw [show FLine.ok v6 (.fields n mac ip) = (n == 2 && mac.isSome && _) from rfl, beq_false_of_ne hn]
      -- both sides are an `if` by unfolding: `loadFile` on a `.fields` line starts with `if n ≠ 2 then none`
      exact if_pos hn

theorem fileOk_cons (v6 : Bool) (l : FLine) (rest : List FLine) :
    fileOk v6 (l :: rest) = (FLine.ok v6 l && fileOk v6 rest) := rfl

/-- the function `listedFor` (Spec/File.lean) looks for in the lines, last first -/
def listedIn (m : List Nat) : FLine → Option IPKind := fun l => match l with
  | .fields _ (some m') ip => if m' == m then some ip else none
  | _ => none

theorem listedFor_eq (m : List Nat) (lines : List FLine) :
    listedFor m lines = lines.reverse.findSome? (listedIn m) := rfl

theorem listedFor_nil (m : List Nat) : listedFor m [] = none := rfl

theorem listedFor_cons (m : List Nat) (l : FLine) (rest : List FLine) :
    listedFor m (l :: rest) = (listedFor m rest).or (listedIn m l) := by
  rw [listedFor_eq, listedFor_eq, List.reverse_cons, List.findSome?_append]
  cases h : listedIn m l <;> simp [h]

theorem get_nil (m : List Nat) : FTable.get [] m = none := rfl

theorem get_put (t : FTable) (m m' : List Nat) (ip : IPKind) :
    FTable.get (t.put m ip) m' = if m == m' then some ip else t.get m' := by
  unfold FTable.get FTable.put
  rw [List.find?_cons]
  cases h : m == m'
  · rw [find?_fst_filter_ne t h]; rfl
  · rfl

theorem get_apply (l : FLine) (t : FTable) (m : List Nat) : (l.apply t).get m = (listedIn m l).or (t.get m) := by
  cases l with
  | fields n mac ip =>
    cases mac with
    | none => rfl
    | some m' =>
      simp only [FLine.apply, listedIn, get_put]
      cases m' == m <;> rfl
  | _ => rfl

theorem loadFile_isSome (v6 : Bool) (lines : List FLine) :
    ∀ acc : FTable, (loadFile v6 lines acc).isSome = fileOk v6 lines := by
  induction lines with
  | nil => intro acc; rfl
  | cons l rest ih =>
    intro acc
    rw [loadFile_cons, fileOk_cons]
    cases FLine.ok v6 l
    · rfl
    · exact ih _

theorem loadFile_get (v6 : Bool) (lines : List FLine) :
    ∀ (acc t : FTable), loadFile v6 lines acc = some t →
      ∀ m, t.get m = (listedFor m lines).or (acc.get m) := by
  induction lines with
  | nil =>
    intro acc t h m
    cases h
    rfl
  | cons l rest ih =>
    intro acc t h m
    rw [loadFile_cons] at h
    cases hl : FLine.ok v6 l
    · rw [hl] at h; cases h
    · rw [hl] at h
      rw [ih _ t h m, get_apply, listedFor_cons, Option.or_assoc]

theorem load_of_some {v6 : Bool} {lines : List FLine} {t : FTable} (s : FState)
    (h : loadFile v6 lines [] = some t) : s.load v6 lines = (s.setTable v6 t, true) := by
  unfold FState.load; rw [h]

theorem load_of_none {v6 : Bool} {lines : List FLine} (s : FState)
    (h : loadFile v6 lines [] = none) : s.load v6 lines = (s, false) := by
  unfold FState.load; rw [h]

theorem table_setTable (s : FState) (v6 : Bool) (t : FTable) : (s.setTable v6 t).table v6 = t := by
  cases v6 <;> rfl

theorem table_setTable_not (s : FState) (v6 : Bool) (t : FTable) :
    (s.setTable v6 t).table (!v6) = s.table (!v6) := by
  cases v6 <;> rfl

theorem loadFile_map (v6 : Bool) (lines : List FLine) (t : FTable)
    (h : loadFile v6 lines [] = some t) (m : List Nat) : t.get m = listedFor m lines := by
  rw [loadFile_get v6 lines [] t h m, get_nil, Option.or_none]

def Inv (s : FState) (mon : FMon) : Prop :=
  (∀ m, s.t4.get m = listedFor m (mon.f4.getD [])) ∧
  (∀ m, s.t6.get m = listedFor m (mon.f6.getD []))

/-- Stated for `.refresh`; `run_ok` uses it for `.setup` as well: the monitor's two branches (Spec/File.lean) have the
same first component. -/
theorem inv_load (s : FState) (mon : FMon) (v6 : Bool) (lines : List FLine) (hinv : Inv s mon) :
    Inv (s.load v6 lines).1 (mon.step (.refresh v6 lines)).1 ∧ (s.load v6 lines).2 = fileOk v6 lines := by
  -- `fileOk` occurs in the goal and again inside the monitor's step, visible only once that is unfolded
  rw [← loadFile_isSome v6 lines [], FMon.step, ← loadFile_isSome v6 lines []]
  cases hl : loadFile v6 lines [] with
  | none => rw [load_of_none s hl]; exact ⟨hinv, rfl⟩
  | some t =>
    rw [load_of_some s hl]
    have hg := loadFile_map v6 lines t hl
    cases v6
    · exact ⟨⟨hg, hinv.2⟩, rfl⟩
    · exact ⟨⟨hinv.1, hg⟩, rfl⟩

theorem q4_ok (s : FState) (mon : FMon) (hinv : Inv s mon) (mac : List Nat) :
    (mon.step (.q4 mac (s.query4 mac))).2 = true := by
  rw [FMon.step, FState.query4, hinv.1 mac]
  cases listedFor mac (mon.f4.getD []) with
  | none => rfl
  | some ip => cases ip <;> exact beq_self_eq_true _

theorem q6_ok (s : FState) (mon : FMon) (hinv : Inv s mon) (hi : Bool) (mac : Option (List Nat)) :
    (mon.step (.q6 hi mac (s.query6 hi mac))).2 = true := by
  cases hi
  · rfl
  · cases mac with
    | none => rfl
    | some mm =>
      rw [FMon.step, FState.query6, hinv.2 mm]
      cases listedFor mm (mon.f6.getD []) with
      | none => rfl
      | some ip => cases ip <;> exact beq_self_eq_true _

theorem run_ok (ops : List FOp) :
    ∀ (s : FState) (mon : FMon), Inv s mon → (FMon.run mon (FState.run s ops)).all id = true := by
  induction ops with
  | nil => intro s mon _; rfl
  | cons op ops ih =>
    intro s mon hinv
    cases op with
    | setup v6 lines =>
      have h := inv_load s mon v6 lines hinv
      exact Bool.and_eq_true_iff.mpr ⟨beq_iff_eq.mpr h.2, ih _ _ h.1⟩
    | refresh v6 lines => exact ih _ _ (inv_load s mon v6 lines hinv).1
    | q4 mac => exact Bool.and_eq_true_iff.mpr ⟨q4_ok s mon hinv mac, ih s mon hinv⟩
    | q6 hi mac => exact Bool.and_eq_true_iff.mpr ⟨q6_ok s mon hinv hi mac, ih s mon hinv⟩

end FileAux

namespace FileSetup

theorem setup_cons (v6 : Bool) (f : String) (rest : List String) (loadOk newWatcherOk addOk : Bool) :
    setup v6 (f :: rest) loadOk newWatcherOk addOk =
      if f = "" then .argErr .emptyFileName
      else if !loadOk then .loadErr
      else if rest.head? = some autoRefreshArg then
        if !newWatcherOk then .watcherErr else if !addOk then .watchErr else .ok (some f) .own4 .own6
      else .ok none .own4 .own6 := rfl

theorem second_arg (f : String) (rest : List String) : (f :: rest)[1]? = rest.head? := by
  rw [List.getElem?_cons_succ, List.head?_eq_getElem?]

theorem setup_eq_ok_iff (v6 : Bool) (f : String) (rest : List String) (loadOk newWatcherOk addOk : Bool)
    (w : Option String) (t4 t6 : Table) :
    setup v6 (f :: rest) loadOk newWatcherOk addOk = .ok w t4 t6 ↔
      f ≠ "" ∧ loadOk = true ∧
        (if rest.head? = some autoRefreshArg then newWatcherOk = true ∧ addOk = true ∧ w = some f else w = none) ∧
        t4 = .own4 ∧ t6 = .own6 := by
  rw [setup_cons]
  by_cases hf : f = ""
  · simp [hf]
  · cases loadOk
    · simp [hf]
    · by_cases ha : rest.head? = some autoRefreshArg
      · cases newWatcherOk <;> cases addOk <;> simp [hf, ha, eq_comm]
      · simp [hf, ha, eq_comm]

theorem watchRun_keeps (handle : Event → EvOut) (name : String)
    (h : ∀ ev, ev.replaced = true → (handle ev).rewatch = some name) (history : List Event) :
    watchRun handle name true true history = history.map (fun _ => some true) := by
  induction history with
  | nil => rfl
  | cons ev rest ih =>
    have hw : watchAfter name true ev (handle ev) = true := by
      unfold watchAfter
      cases hr : ev.replaced
      · rfl
      · rw [h ev hr]; simp only [decide_true, Bool.and_self, Bool.or_true]
    simp only [watchRun, hw, List.map_cons, ih]

end FileSetup
end CoreDhcp
