/-
C18 (configuration loader): the model (`CoreDhcp/Model/Config.lean`) against the specification
(`CoreDhcp/Spec/Config.lean`).

`CoreDhcp.ZS`, the zone split: the legacy `String.splitOn s "%"` computes `List.splitOn '%'` on the
characters (proved from the reference implementations of `Pos.Raw.get`/`next`/`extract`), hence the
spec's zone split (`splitOn`/`intercalate`) agrees with the model's split at the last '%'.
At a Lean upgrade: everything in `ZS` down to and including `splitOn_percent` speaks of core's `String.splitOn`,
`String.splitOnAux`, `Pos.Raw.utf8GetAux` and `Pos.Raw.extract.go₁/go₂` and breaks when they change; nothing below
it does.
After `ZS`: model = spec function by function.  `listenAddr`, `listenOne` and the `_eq_bind` / `_cons` equations
name the steps of the model that the spec and the generated code (`Props/GenConfig.lean`) are both compared with.
-/
import CoreDhcp.Spec.Config
namespace CoreDhcp
namespace ZS
open String

def ulen (cs : List Char) : Nat := (cs.map Char.utf8Size).sum

@[simp] theorem ulen_nil : ulen [] = 0 := rfl
@[simp] theorem ulen_cons (c : Char) (cs : List Char) : ulen (c :: cs) = c.utf8Size + ulen cs := by
  simp [ulen]
@[simp] theorem ulen_append (a b : List Char) : ulen (a ++ b) = ulen a + ulen b := by
  simp [ulen]

theorem byteSize_eq (s : String) : s.utf8ByteSize = ulen s.toList := by
  rw [← String.ofList_toList (s := s), String.toList_ofList]
  induction s.toList with
  | nil => simp
  | cons c cs ih => simp [String.ofList_cons, String.utf8ByteSize_append, ih]

theorem step_ne (i n : Nat) (d : Char) : (⟨i⟩ : Pos.Raw) ≠ ⟨i + (d.utf8Size + n)⟩ := fun h =>
  Nat.ne_of_lt (Nat.lt_add_of_pos_right (Nat.add_pos_left d.utf8Size_pos n)) (Pos.Raw.mk.inj h)

theorem getAux_valid (pre : List Char) (c : Char) (post : List Char) (i : Nat) :
    Pos.Raw.utf8GetAux (pre ++ c :: post) ⟨i⟩ ⟨i + ulen pre⟩ = c := by
  induction pre generalizing i with
  | nil => simp [Pos.Raw.utf8GetAux]
  | cons d pre ih =>
    rw [List.cons_append, ulen_cons, Pos.Raw.utf8GetAux, if_neg (step_ne _ _ _), ← Nat.add_assoc]
    exact ih (i + d.utf8Size)

theorem go2_valid (mid post : List Char) (i : Nat) :
    Pos.Raw.extract.go₂ (mid ++ post) ⟨i⟩ ⟨i + ulen mid⟩ = mid := by
  induction mid generalizing i with
  | nil => cases post <;> simp [Pos.Raw.extract.go₂]
  | cons d mid ih =>
    rw [List.cons_append, ulen_cons, Pos.Raw.extract.go₂, if_neg (step_ne _ _ _), ← Nat.add_assoc]
    exact congrArg (d :: ·) (ih (i + d.utf8Size))

theorem go1_valid (pre mid post : List Char) (i : Nat) :
    Pos.Raw.extract.go₁ (pre ++ mid ++ post) ⟨i⟩ ⟨i + ulen pre⟩ ⟨i + ulen pre + ulen mid⟩ = mid := by
  induction pre generalizing i with
  | nil =>
    simp only [List.nil_append, ulen_nil, Nat.add_zero]
    cases h : mid ++ post with
    | nil =>
      obtain ⟨rfl, _⟩ := List.append_eq_nil_iff.1 h
      rfl
    | cons x xs => rw [Pos.Raw.extract.go₁, if_pos rfl, ← h, go2_valid]
  | cons d pre ih =>
    rw [List.cons_append, List.cons_append, ulen_cons, Pos.Raw.extract.go₁, if_neg (step_ne _ _ _), ← Nat.add_assoc]
    exact ih (i + d.utf8Size)

theorem extract_valid (s : String) (pre mid post : List Char) (hs : s.toList = pre ++ mid ++ post) :
    Pos.Raw.extract s ⟨ulen pre⟩ ⟨ulen (pre ++ mid)⟩ = String.ofList mid := by
  show (if ulen pre ≥ ulen (pre ++ mid) then "" else
    String.ofList (Pos.Raw.extract.go₁ s.toList ⟨0⟩ ⟨ulen pre⟩ ⟨ulen (pre ++ mid)⟩)) = _
  rw [ulen_append]
  cases mid with
  | nil => simp
  | cons c cs =>
    have hpos : 0 < ulen (c :: cs) := Nat.add_pos_left (Char.utf8Size_pos c) _
    rw [if_neg (Nat.not_le.mpr (Nat.lt_add_of_pos_right hpos)), hs]
    have := go1_valid pre (c :: cs) post 0
    rw [Nat.zero_add] at this
    rw [this]

theorem atEnd_valid (s : String) (l post : List Char) (hs : s.toList = l ++ post) :
    Pos.Raw.atEnd s ⟨ulen l⟩ = post.isEmpty := by
  show decide (ulen l ≥ s.utf8ByteSize) = _
  rw [byteSize_eq, hs, ulen_append]
  cases post with
  | nil => exact decide_eq_true (Nat.le_refl _)
  | cons c post =>
    exact decide_eq_false (Nat.not_le.mpr (Nat.lt_add_of_pos_right (Nat.add_pos_left c.utf8Size_pos _)))

theorem get_valid (s : String) (l : List Char) (c : Char) (post : List Char)
    (hs : s.toList = l ++ c :: post) : Pos.Raw.get s ⟨ulen l⟩ = c := by
  show Pos.Raw.utf8GetAux s.toList ⟨0⟩ ⟨ulen l⟩ = c
  rw [hs, ← Nat.zero_add (ulen l)]
  exact getAux_valid l c post 0

theorem next_valid (s : String) (l : List Char) (c : Char) (post : List Char)
    (hs : s.toList = l ++ c :: post) : Pos.Raw.next s ⟨ulen l⟩ = ⟨ulen (l ++ [c])⟩ := by
  show (⟨ulen l⟩ : Pos.Raw) + Pos.Raw.get s ⟨ulen l⟩ = _
  rw [get_valid s l c post hs, ulen_append, ulen_cons, ulen_nil]
  rfl

/-- the state of `splitOnAux` for the separator "%": `pre` is behind the last separator, `mid` the part being
read, `post` what is left -/
theorem splitOnAux_valid (s : String) (post : List Char) : ∀ (pre mid : List Char) (r : List String),
    s.toList = pre ++ mid ++ post →
    s.splitOnAux "%" ⟨ulen pre⟩ ⟨ulen (pre ++ mid)⟩ 0 r =
      r.reverse ++ (List.splitOnPPrepend (· == '%') post mid.reverse).map String.ofList := by
  induction post with
  | nil =>
    intro pre mid r hs
    rw [String.splitOnAux, atEnd_valid s _ [] (by simpa using hs), List.isEmpty_nil, if_pos rfl,
      extract_valid s pre mid [] hs]
    simp
  | cons c post ih =>
    intro pre mid r hs
    rw [String.splitOnAux, atEnd_valid s _ (c :: post) hs, List.isEmpty_cons, if_neg Bool.false_ne_true,
      get_valid s _ c post hs, show Pos.Raw.get "%" 0 = '%' by decide]
    by_cases hp : (c == '%') = true
    · rw [if_pos hp]
      obtain rfl := eq_of_beq hp
      dsimp only
      rw [next_valid s _ _ post hs, show Pos.Raw.next "%" 0 = ⟨1⟩ by decide, if_pos (by decide)]
      have hu : (⟨ulen (pre ++ mid ++ ['%'])⟩ : Pos.Raw).unoffsetBy ⟨1⟩ = ⟨ulen (pre ++ mid)⟩ := by
        rw [ulen_append (pre ++ mid)]; rfl
      rw [hu, extract_valid s pre mid _ hs]
      have := ih (pre ++ mid ++ ['%']) [] (String.ofList mid :: r) (by simpa using hs)
      rw [List.append_nil] at this
      rw [this]
      simp [List.splitOnPPrepend]
    · rw [if_neg hp, show (⟨ulen (pre ++ mid)⟩ : Pos.Raw).unoffsetBy 0 = ⟨ulen (pre ++ mid)⟩ from rfl,
        next_valid s _ _ post hs, List.append_assoc]
      rw [ih pre (mid ++ [c]) r (by simpa using hs)]
      simp [List.splitOnPPrepend, hp]

theorem splitOn_percent (s : String) :
    s.splitOn "%" = (s.toList.splitOn '%').map String.ofList := by
  have h : ("%" == "") = false := by decide
  unfold String.splitOn
  rw [h]
  simp only [Bool.false_eq_true, if_false]
  have := splitOnAux_valid s s.toList [] [] [] (by simp)
  simp only [ulen_nil, List.append_nil, List.reverse_nil, List.nil_append] at this
  exact this

theorem lastPercent_cons (c : Char) (cs : List Char) :
    lastPercent (c :: cs) =
      match lastPercent cs with
      | some i => some (i + 1)
      | none => if c == '%' then some 0 else none := by
  unfold lastPercent
  simp only [List.length_cons, List.range_succ_eq_map, List.filter_cons, List.filter_map, List.getD_cons_zero]
  have : ((fun i => (c :: cs).getD i ' ' == '%') ∘ Nat.succ) = fun i => cs.getD i ' ' == '%' := rfl
  rw [this]
  generalize (List.range cs.length).filter (fun i => cs.getD i ' ' == '%') = l
  cases c == '%'
  · rw [if_neg Bool.false_ne_true, if_neg Bool.false_ne_true, List.getLast?_map]
    cases l.getLast? <;> rfl
  · rw [if_pos rfl, if_pos rfl, List.getLast?_cons, List.getLast?_map]
    cases l.getLast? <;> rfl

theorem lastPercent_spec (cs : List Char) :
    match lastPercent cs with
    | none => '%' ∉ cs
    | some i => cs = cs.take i ++ '%' :: cs.drop (i + 1) ∧ '%' ∉ cs.drop (i + 1) := by
  induction cs with
  | nil => exact List.not_mem_nil
  | cons c cs ih =>
    rw [lastPercent_cons]
    cases hl : lastPercent cs with
    | some j =>
      rw [hl] at ih
      exact ⟨congrArg (c :: ·) ih.1, ih.2⟩
    | none =>
      rw [hl] at ih
      by_cases hc : (c == '%') = true
      · rw [if_pos hc, eq_of_beq hc]
        exact ⟨rfl, ih⟩
      · rw [if_neg hc, List.mem_cons, not_or]
        exact ⟨fun e => hc (e ▸ rfl), ih⟩

theorem intercalate_ofList (ls : List (List Char)) :
    "%".intercalate (ls.map String.ofList) = String.ofList (['%'].intercalate ls) := by
  rw [← String.toList_inj, String.toList_intercalate]
  simp only [List.map_map, String.toList_ofList]
  have : (String.toList ∘ String.ofList) = (id : List Char → List Char) := by
    funext x; simp
  rw [this]
  have h2 : "%".toList = ['%'] := by decide
  simp [h2]

/-- the spec's split of a host at '%' (address: all parts but the last, joined again; zone: the last part) is
the model's split at the last '%' -/
theorem zone_split_eq (h : String) :
    (if (h.splitOn "%").length ≤ 1 then h else "%".intercalate (h.splitOn "%").dropLast) =
      (match lastPercent h.toList with
        | some i => String.ofList (h.toList.take i)
        | none => h) ∧
    (if (h.splitOn "%").length ≤ 1 then "" else (h.splitOn "%").getLast!) =
      (match lastPercent h.toList with
        | some i => String.ofList (h.toList.drop (i + 1))
        | none => "") := by
  rw [splitOn_percent]
  have hsp := lastPercent_spec h.toList
  cases hl : lastPercent h.toList with
  | none =>
    rw [hl] at hsp
    simp [List.splitOn_eq_singleton hsp]
  | some i =>
    rw [hl] at hsp
    obtain ⟨hcs, hd⟩ := hsp
    dsimp only
    generalize h.toList.take i = t at hcs ⊢
    generalize h.toList.drop (i + 1) = d at hcs hd ⊢
    rw [hcs, List.splitOn_append_cons_self, List.splitOn_eq_singleton hd, if_neg (by simp), if_neg (by simp)]
    constructor
    · rw [List.map_append, List.map_cons, List.map_nil, List.dropLast_concat, intercalate_ofList,
        List.intercalate_splitOn]
    · simp [List.getLast!_eq_getLast?_getD]

end ZS

/-- `ip.To4()` against the version -/
def wrongFamily (v6 : Bool) : IPKind → Bool
  | .v4 _ => v6
  | _ => !v6

/-- `getListenAddress` behind the choice of the IP, in the code's order of checks -/
def listenAddr (v6 : Bool) (ip : IPKind) (zone port : String) (atoi : Option Int) : Option UDPAddr :=
  if ip = .none then none
  else if wrongFamily v6 ip then none
  else if port == "" then some ⟨ip, if v6 then 547 else 67, zone⟩
  else atoi.map (fun p => ⟨ip, p, zone⟩)

theorem listenAddr_family {v6 : Bool} {ip : IPKind} {zone port : String} {atoi : Option Int} {a : UDPAddr}
    (h : listenAddr v6 ip zone port atoi = some a) :
    (match a.ip with | .v4 _ => v6 = false | .v6 _ => v6 = true | .none => False) := by
  unfold listenAddr at h
  by_cases hn : ip = .none
  · rw [if_pos hn] at h; cases h
  · by_cases hw : wrongFamily v6 ip = true
    · rw [if_neg hn, if_pos hw] at h; cases h
    · rw [if_neg hn, if_neg hw] at h
      have hip : a.ip = ip := by
        by_cases hp : (port == "") = true
        · rw [if_pos hp] at h
          cases h
          rfl
        · rw [if_neg hp] at h
          obtain ⟨p, _, rfl⟩ := Option.map_eq_some_iff.1 h
          rfl
      rw [hip]
      cases ip with
      | none => exact hn rfl
      | v4 _ => cases v6 with | false => rfl | true => exact absurd rfl hw
      | v6 _ => cases v6 with | false => exact absurd rfl hw | true => rfl

theorem getListenAddress_eq_bind (v6 : Bool) (o : AddrOracle) :
    getListenAddress v6 o = (splitHostPort o).bind fun t =>
      listenAddr v6 (if t.1 == "" then (if v6 then .v6 ⟨0#64, 0#64⟩ else .v4 0#32) else lookupIP o t.1)
        t.2.1 t.2.2 o.atoi := by
  unfold getListenAddress
  cases splitHostPort o with
  | none => rfl
  | some t =>
    obtain ⟨ipStr, zone, port⟩ := t
    simp only [Option.bind_some]
    generalize (if ipStr == "" then (if v6 then IPKind.v6 ⟨0#64, 0#64⟩ else .v4 0#32) else lookupIP o ipStr) = ip
    unfold listenAddr
    cases ip <;> cases v6 <;> cases o.atoi <;> rfl

theorem listenAddr_eq_specAddr_tail (v6 : Bool) (ip : IPKind) (zone port : String) (atoi : Option Int) :
    listenAddr v6 ip zone port atoi =
      if !(match ip, v6 with | .v4 _, false => true | .v6 _, true => true | _, _ => false) then none
      else if port == "" then some ⟨ip, if v6 then 547 else 67, zone⟩
      else atoi.map (fun p => ⟨ip, p, zone⟩) := by
  unfold listenAddr
  cases ip <;> cases v6 <;> rfl

theorem specAddr_eq (v6 : Bool) (o : AddrOracle) : specAddr v6 o = getListenAddress v6 o := by
  rw [getListenAddress_eq_bind]
  unfold specAddr splitHostPort
  cases o.shp with
  | some hp =>
    obtain ⟨h, p⟩ := hp
    rw [Option.orElse_some, Option.bind_some]
    dsimp only
    rw [(ZS.zone_split_eq h).1, (ZS.zone_split_eq h).2]
    -- the model's tail in the spec's words first: unifying the spec's text with `listenAddr` is dearer
    cases lastPercent h.toList <;> rw [Option.bind_some, listenAddr_eq_specAddr_tail] <;> rfl
  | none =>
    cases o.shp0 with
    | none => rfl
    | some h =>
      rw [Option.orElse_none, Option.map_some, Option.bind_some]
      dsimp only
      rw [(ZS.zone_split_eq h).1, (ZS.zone_split_eq h).2]
      cases lastPercent h.toList <;> rw [Option.bind_some, listenAddr_eq_specAddr_tail] <;> rfl

theorem specExpand_eq (ifs : List Iface) (l : UDPAddr) :
    specExpand ifs l =
      (if l.zone == "" && (isLLMulticast l.ip || isIfaceLocalMulticast l.ip) then expandLLMulticast ifs l
       else some [l]) := by
  unfold specExpand
  refine ite_congr rfl (fun hc => ?_) (fun _ => rfl)
  -- under the shared guard the model's own two tests pass; the interface filters differ in the order of a disjunction
  obtain ⟨hz, hm⟩ := (Bool.and_eq_true _ _).mp hc
  unfold expandLLMulticast
  rw [hm, bne, hz]
  simp only [Bool.or_comm]
  rfl

/-- the body of the loop of `parseListen` -/
def listenOne (v6 : Bool) (ifs : List Iface) (os : List AddrOracle) (a : String) : Option (List UDPAddr) :=
  (findOracle os a).bind fun o => (getListenAddress v6 o).bind fun l =>
    if l.zone == "" && (isLLMulticast l.ip || isIfaceLocalMulticast l.ip) then expandLLMulticast ifs l else some [l]

theorem listenLoop_cons (v6 : Bool) (ifs : List Iface) (os : List AddrOracle) (a : String) (rest : List String) :
    listenLoop v6 ifs os (a :: rest) =
      (listenOne v6 ifs os a).bind fun x => (listenLoop v6 ifs os rest).map (x ++ ·) := by
  rw [listenLoop]
  unfold listenOne
  cases findOracle os a with
  | none => rfl
  | some o =>
    dsimp only [Option.bind_some]
    cases getListenAddress v6 o with
    | none => rfl
    | some l =>
      dsimp only [Option.bind_some]
      generalize (if (l.zone == "" && (isLLMulticast l.ip || isIfaceLocalMulticast l.ip)) = true then
        expandLLMulticast ifs l else some [l]) = t
      cases t <;> cases listenLoop v6 ifs os rest <;> rfl

theorem listenOne_eq_spec (v6 : Bool) (ifs : List Iface) (os : List AddrOracle) (a : String) :
    listenOne v6 ifs os a = (findOracle os a).bind fun o => (specAddr v6 o).bind (specExpand ifs) := by
  show _ = (findOracle os a).bind fun o => (specAddr v6 o).bind fun l => specExpand ifs l
  simp only [specAddr_eq, specExpand_eq]
  rfl

theorem listenLoop_eq (v6 : Bool) (ifs : List Iface) (os : List AddrOracle) (l : List String) :
    listenLoop v6 ifs os l =
      l.foldr (fun s acc =>
        match findOracle os s, acc with
        | some o, some rest => ((specAddr v6 o).bind (specExpand ifs)).map (· ++ rest)
        | _, _ => none) (some []) := by
  induction l with
  | nil => rfl
  | cons a rest ih =>
    rw [List.foldr_cons, ← ih, listenLoop_cons, listenOne_eq_spec]
    cases findOracle os a with
    | none => cases listenLoop v6 ifs os rest <;> rfl
    | some o =>
      -- the same under either outcome of the rest; the `match` on the pair reduces only when both are known
      cases listenLoop v6 ifs os rest
      all_goals
        dsimp only [Option.bind_some]
        cases (specAddr v6 o).bind (specExpand ifs) <;> rfl

theorem parseListen_eq (v6 : Bool) (ifs : List Iface) (sec : SectionView) :
    parseListen v6 ifs sec = specListeners v6 ifs sec := by
  unfold parseListen specListeners
  match sec.iface, sec.listen with
  | some _, some _ => rfl
  | some _, none => exact listenLoop_eq v6 ifs sec.oracles _
  | none, some _ => exact listenLoop_eq v6 ifs sec.oracles _
  | none, none =>
    unfold defaultListen
    cases v6
    · rfl
    · rw [specExpand_eq, if_pos rfl]
      cases expandLLMulticast ifs ⟨allRelayAgentsAndServers, 547, ""⟩ <;> rfl

theorem parsePlugins_eq (items : List ItemView) :
    parsePlugins items = if itemsOk items then some (itemsList items) else none := by
  induction items with
  | nil => rfl
  | cons i rest ih =>
    cases i with
    | one n a =>
      rw [parsePlugins, ih]
      show _ = if itemsOk rest then some ((n, a) :: itemsList rest) else none
      cases itemsOk rest <;> rfl
    | notMap => rfl
    | keys k => rfl

theorem parseSection_eq_bind (v6 : Bool) (ifs : List Iface) (sec : SectionView) :
    parseSection v6 ifs sec =
      (sec.plugins.bind parsePlugins).bind fun ps => (parseListen v6 ifs sec).map fun ls => ⟨ls, ps⟩ := by
  unfold parseSection
  cases sec.plugins with
  | none => rfl
  | some items =>
    dsimp only [Option.bind_some]
    cases parsePlugins items with
    | none => rfl
    | some ps => cases parseListen v6 ifs sec <;> rfl

theorem parseSection_eq (v6 : Bool) (ifs : List Iface) (sec : SectionView) :
    parseSection v6 ifs sec = specSection v6 ifs sec := by
  rw [parseSection_eq_bind, parseListen_eq]
  unfold specSection
  cases sec.plugins with
  | none => rfl
  | some items =>
    rw [Option.bind_some, parsePlugins_eq]
    dsimp only
    cases itemsOk items <;> rfl

theorem sameCfg_refl (a : Option ServerConfig) : sameCfg a a = true := by
  cases a with
  | none => rfl
  | some x => exact Bool.and_eq_true_iff.mpr ⟨beq_iff_eq.mpr rfl, beq_iff_eq.mpr rfl⟩

theorem sameCfg_pair (a b : Option ServerConfig) : (sameCfg a a && sameCfg b b) = true := by
  rw [sameCfg_refl, sameCfg_refl]; rfl

end CoreDhcp
