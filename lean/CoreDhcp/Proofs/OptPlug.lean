/-
What Props/C14, C17, C19 and Builtin say of the built-in option plugins rests on three ideas proved here. A handler is
read as a whole: `server_id` is an equation in the specification's own decision, and every handler fits one frame
(`HandlerFrame`: no response and the chain ends, or the response with only its own option codes written), from which the
facts the chain properties need follow for all plugins at once. A set-up is read backwards once (`*_setup_ok`: what its
`.ok` means for the arguments), and what it accepts is then shown to fit the wire. A wire format is read back by one step
of its decoder on one encoded item, and lists by induction.
-/
import CoreDhcp.Spec.OptPlug
import CoreDhcp.Proofs.BigEndian
namespace CoreDhcp
open Plug

/-! Found first, these spare `simp` the long search through the order classes that it otherwise makes, at every call that
meets a `==`, before it finds them. -/
local instance : ReflBEq Nat := inferInstance
local instance : ReflBEq Out6 := inferInstance

theorem lookup_upd4_same (c : Nat) (v : Bytes) (l : Opts) : lookup c (upd4 c v l) = some v := by
  induction l with
  | nil => simp [upd4, lookup]
  | cons o rest ih =>
    obtain ⟨c', v'⟩ := o
    unfold upd4
    by_cases h1 : c' < c
    · have : c' ≠ c := by omega
      simp [h1, lookup, this, ih]
    · by_cases h2 : c' = c
      · simp [h2, lookup]
      · simp [h1, h2, lookup]

theorem lookup_upd4_other (c c' : Nat) (v : Bytes) (l : Opts) (h : c' ≠ c) :
    lookup c' (upd4 c v l) = lookup c' l := by
  induction l with
  | nil => simp [upd4, lookup, Ne.symm h]
  | cons o rest ih =>
    obtain ⟨d, w⟩ := o
    unfold upd4
    by_cases h1 : d < c
    · simp only [h1, if_true, lookup, ih]
    · by_cases h2 : d = c
      · subst h2
        simp [lookup, Ne.symm h]
      · simp [h1, h2, lookup, Ne.symm h]

theorem sameExcept_of (codes : List Nat) (pre out : Opts)
    (h : ∀ c, c ∉ codes → lookup c out = lookup c pre) : sameExcept codes pre out = true := by
  unfold sameExcept
  rw [List.all_eq_true]
  intro o _
  by_cases hc : o.1 ∈ codes
  · simp [hc]
  · simp [h o.1 hc]

theorem setOnly4_of (want : Opts) (pre r : Resp4) (hmt : r.mt = pre.mt) (hy : r.yiaddr = pre.yiaddr)
    (hs : r.siaddr = pre.siaddr) (hw : ∀ o ∈ want, lookup o.1 r.opts = some o.2)
    (ho : ∀ c, c ∉ want.map (·.1) → lookup c r.opts = lookup c pre.opts) : setOnly4 want pre r = true := by
  unfold setOnly4
  simp only [hmt, hy, hs, beq_self_eq_true, Bool.true_and, Bool.and_eq_true]
  refine ⟨?_, sameExcept_of _ _ _ ho⟩
  rw [List.all_eq_true]
  intro o ho'
  simp [hw o ho']

theorem setOnly4_nil (pre : Resp4) : setOnly4 [] pre pre = true :=
  setOnly4_of [] pre pre rfl rfl rfl (by simp) (by simp)

theorem setOnly4_update (pre : Resp4) (c : Nat) (v : Bytes) : setOnly4 [(c, v)] pre (pre.update c v) = true := by
  refine setOnly4_of _ _ _ rfl rfl rfl (fun o ho => ?_) (fun c' hc' => ?_)
  · cases List.mem_singleton.mp ho
    exact lookup_upd4_same c v pre.opts
  · exact lookup_upd4_other c c' v pre.opts (fun e => hc' (e ▸ List.mem_singleton_self c))

theorem filter_upd6 (p : Nat → Bool) (c : Nat) (hp : p c = false) (v : Bytes) (l : Opts) :
    (upd6 c v l).filter (fun o => p o.1) = l.filter (fun o => p o.1) := by
  induction l with
  | nil => simp [upd6, hp]
  | cons o rest ih =>
    obtain ⟨d, w⟩ := o
    unfold upd6
    by_cases hd : d = c
    · subst hd; simp [hp]
    · simp [hd, List.filter_cons, ih]

theorem filter_self_upd6 (c : Nat) (v : Bytes) (l : Opts) (h : C17.count c l ≤ 1) :
    (upd6 c v l).filter (fun o => o.1 == c) = [(c, v)] := by
  induction l with
  | nil => simp [upd6]
  | cons o rest ih =>
    obtain ⟨d, w⟩ := o
    unfold upd6
    by_cases hd : d = c
    · subst hd
      simp only [C17.count, List.filter_cons, beq_self_eq_true, if_true, List.length_cons] at h
      have h0 : (rest.filter (fun x => x.1 == d)).length = 0 := by omega
      simp [List.length_eq_zero_iff.mp h0]
    · have h' : C17.count c rest ≤ 1 := by
        simpa [C17.count, List.filter_cons, hd] using h
      simp [hd, ih h']

theorem setOnly6_update (pre : Resp6) (c : Nat) (v : Bytes) (h : C17.count c pre.opts ≤ 1) :
    setOnly6 c [v] pre (pre.update c v) = true := by
  simp [setOnly6, Resp6.update, filter_upd6 (· != c) c (bne_self_eq_false c), filter_self_upd6 c v pre.opts h]

theorem head_filter_lookup (c : Nat) (l : Opts) :
    (l.filter (fun o => o.1 == c)).head? = (lookup c l).map (fun v => (c, v)) := by
  induction l with
  | nil => simp [lookup]
  | cons o rest ih =>
    obtain ⟨d, w⟩ := o
    by_cases hd : d = c
    · subst hd; simp [lookup]
    · simp [lookup, hd, ih]

theorem reqList_eq (req : ReqView4) : C17.reqList req = prl4 req := by
  unfold C17.reqList prl4
  cases h : lookup 55 req.opts with
  | none => rfl
  | some l => cases l <;> rfl

theorem asks4_eq (req : ReqView4) (c : Nat) : C17.asks4 req c = requested4 req c := by
  unfold C17.asks4 requested4
  rw [reqList_eq]
  cases prl4 req <;> simp

theorem lists4_eq (req : ReqView4) (c : Nat) : C17.lists4 req c = listed4 req c := by
  unfold C17.lists4 listed4
  rw [reqList_eq]
  cases prl4 req <;> simp

theorem sentAutoConfigure_eq (req : ReqView4) : C17.sentAutoConfigure req = autoconfigure.clientSent req := by
  unfold C17.sentAutoConfigure autoconfigure.clientSent
  cases h : lookup 116 req.opts with
  | none => rfl
  | some l =>
    match l with
    | [] => rfl
    | [_] => rfl
    | _ :: _ :: _ => simp

theorem setOnly4_when (b : Bool) (pre : Resp4) (c : Nat) (v : Bytes) :
    setOnly4 (C17.when b [(c, v)]) pre (if b then pre.update c v else pre) = true := by
  cases b
  · exact setOnly4_nil pre
  · exact setOnly4_update pre c v

theorem setOnly4_when2 (b1 b2 : Bool) (pre : Resp4) (c1 c2 : Nat) (v1 v2 : Bytes) (hne : c1 ≠ c2) :
    setOnly4 (C17.when b1 [(c1, v1)] ++ C17.when b2 [(c2, v2)]) pre
      (if b2 then (if b1 then pre.update c1 v1 else pre).update c2 v2 else if b1 then pre.update c1 v1 else pre) = true := by
  cases b1 <;> cases b2
  · exact setOnly4_nil pre
  · exact setOnly4_update pre c2 v2
  · exact setOnly4_update pre c1 v1
  · refine setOnly4_of _ _ _ rfl rfl rfl ?_ ?_
    · intro o ho
      simp only [C17.when, if_true, List.cons_append, List.nil_append, List.mem_cons, List.not_mem_nil, or_false] at ho
      rcases ho with rfl | rfl
      · exact (lookup_upd4_other _ _ _ _ hne).trans (lookup_upd4_same _ _ _)
      · exact lookup_upd4_same _ _ _
    · intro c hc
      simp only [C17.when, if_true, List.cons_append, List.nil_append, List.map_cons, List.map_nil, List.mem_cons,
        List.not_mem_nil, or_false, not_or] at hc
      exact (lookup_upd4_other _ _ _ _ hc.2).trans (lookup_upd4_other _ _ _ _ hc.1)

/-- C17 for every DHCPv4 plugin; `staticroute` sends nothing for an empty list, which no set-up accepts -/
theorem holds4_plugHandle4 (cfg : Cfg4) (req : ReqView4) (pre : Resp4) (hsr : cfg ≠ .staticroute []) :
    C17.holds4 cfg req pre (plugHandle4 cfg req pre) = true := by
  rw [C17.holds4.eq_def, Bool.or_eq_true]
  by_cases hop : req.op = 1
  case neg => exact .inl (bne_iff_ne.mpr hop)
  refine .inr ?_
  -- plugin by plugin the goal is the specification at the handler's value: a handler that is one update unfolds by
  -- `exact`, one behind a test needs the test named (`simp only`, then the cases of the test)
  cases cfg with
  | netmask m => exact setOnly4_update pre 1 m
  | router c => exact setOnly4_update pre 3 _
  | search c => exact setOnly4_update pre 119 _
  | staticroute c =>
    have hc : c ≠ [] := fun h => hsr (h ▸ rfl)
    simp only [plugHandle4, staticroute.handle, hc, if_false, continues, setOnly4_update]
  | dns c => simp only [plugHandle4, dns4.handle, continues, asks4_eq, setOnly4_when]
  | mtu c => simp only [plugHandle4, mtu.handle, continues, asks4_eq, setOnly4_when]
  | leasetime c =>
    simp only [plugHandle4, leasetime.handle, hop, ne_eq, not_true_eq_false, if_false, continues]
    cases lookup 51 pre.opts
    · exact setOnly4_update pre 51 _
    · exact setOnly4_nil pre
  | ipv6only c =>
    simp only [plugHandle4, ipv6only.handle, lists4_eq]
    cases listed4 req 108
    · exact setOnly4_nil pre
    · exact setOnly4_update pre 108 _
  | autoconfigure c =>
    simp only [plugHandle4, autoconfigure.handle, sentAutoConfigure_eq]
    -- the handler tests `mt ≠ 2 ∨ yiaddr ≠ 0` as a proposition, the specification its negation as a Boolean
    cases hb : (pre.mt == 2 && pre.yiaddr == [0, 0, 0, 0])
    · have h := (Bool.and_eq_false_iff.mp hb).imp beq_eq_false_iff_ne.mp beq_eq_false_iff_ne.mp
      simp only [if_pos h, Bool.false_eq_true, if_false, continues, setOnly4_nil]
    · have ⟨h1, h2⟩ := Bool.and_eq_true_iff.mp hb
      have h : ¬ (pre.mt ≠ 2 ∨ pre.yiaddr ≠ [0, 0, 0, 0]) := fun h => h.elim (· (beq_iff_eq.mp h1)) (· (beq_iff_eq.mp h2))
      rw [if_neg h, if_pos rfl]
      cases autoconfigure.clientSent req
      · rfl
      · exact setOnly4_update pre 116 _
  | nbp c =>
    obtain ⟨o66, o67⟩ := c
    simp only [plugHandle4, nbp4.handle, stops, asks4_eq]
    cases o66 with
    | none =>
      have hw : ∀ b, C17.when b ([] : Opts) = [] := fun b => by cases b <;> rfl
      simp only [hw, List.nil_append, setOnly4_when]
    | some h => exact setOnly4_when2 _ _ pre 66 67 h _ (by decide)
  | sleep c => simp only [plugHandle4, sleep.handle4, beq_self_eq_true]
  | serverid c => rfl

theorem nbp6_added_none (c : nbp6.Cfg) (l : List Nat) (p : Nat → Bool) (h59 : p 59 = false) (h60 : p 60 = false) :
    (nbp6.added c l).filter (fun o => p o.1) = [] := by
  induction l with
  | nil => rfl
  | cons x rest ih =>
    rw [nbp6.added]
    split
    · rw [List.filter_cons, h59]; exact ih
    · split
      · split
        · rw [List.filter_cons, h60]; exact ih
        · exact ih
      · exact ih

theorem nbp6_added_59 (c : nbp6.Cfg) (l : List Nat) :
    (nbp6.added c l).filter (fun o => o.1 == 59) = List.replicate (l.count 59) (59, c.o59) := by
  induction l with
  | nil => rfl
  | cons x rest ih =>
    rw [nbp6.added]
    split
    · next h => subst h; simp [ih, List.replicate_succ]
    · next h =>
      have hx : (x == 59) = false := beq_eq_false_iff_ne.mpr h
      split
      · split <;> simp [ih, List.count_cons, hx]
      · simp [ih, List.count_cons, hx]

theorem nbp6_added_60 (c : nbp6.Cfg) (l : List Nat) :
    (nbp6.added c l).filter (fun o => o.1 == 60) =
      match c.o60 with
      | some p => List.replicate (l.count 60) (60, encBootParams [p])
      | none => [] := by
  obtain ⟨u, o60⟩ := c
  induction l with
  | nil => cases o60 <;> rfl
  | cons x rest ih =>
    rw [nbp6.added]
    split
    · next h => subst h; cases o60 <;> simp [ih]
    · split
      · next h => subst h; cases o60 <;> simp [ih, List.replicate_succ]
      · next _ h =>
        have hx : (x == 60) = false := beq_eq_false_iff_ne.mpr h
        cases o60 <;> simp [ih, List.count_cons, hx]

theorem count_le_one_replicate {α β : Type} [BEq α] [LawfulBEq α] (l : List α) (a : α) (b : β) (h : l.count a ≤ 1) :
    List.replicate (l.count a) b = if l.contains a then [b] else [] := by
  by_cases hm : a ∈ l
  · have : 0 < l.count a := List.count_pos_iff.mpr hm
    have h1 : l.count a = 1 := by omega
    simp [h1, hm]
  · have : l.count a = 0 := List.count_eq_zero.mpr hm
    simp [this, hm]

theorem filter_eq_nil_of_count {c : Nat} {l : Opts} (h : C17.count c l = 0) : l.filter (fun o => o.1 == c) = [] :=
  List.length_eq_zero_iff.mp h

theorem holds6_plugHandle6 (cfg : Cfg6) (req : ReqView6) (pre : Resp6) (hd : C17.dom6 cfg req pre = true) :
    C17.holds6 cfg req pre (plugHandle6 cfg req pre) = true := by
  cases cfg with
  | dns c =>
    have hc : C17.count 23 pre.opts ≤ 1 := of_decide_eq_true hd
    simp only [C17.holds6, plugHandle6, dns6.handle]
    cases (oro6 req).contains 23
    · simp only [Bool.false_eq_true, if_false, beq_self_eq_true]
    · exact setOnly6_update pre 23 _ hc
  | search c => exact setOnly6_update pre 24 _ (of_decide_eq_true hd)
  | nbp c =>
    simp only [C17.dom6, Bool.and_eq_true, beq_iff_eq, decide_eq_true_eq] at hd
    obtain ⟨⟨⟨h59, h60⟩, ho59⟩, ho60⟩ := hd
    -- the reply is `pre` (no option 59 or 60) with `added` appended: its options of other codes, of code 59, of code 60
    have e0 : (pre.opts ++ nbp6.added c (oro6 req)).filter (fun o => o.1 != 59 && o.1 != 60) =
        pre.opts.filter (fun o => o.1 != 59 && o.1 != 60) := by
      rw [List.filter_append, nbp6_added_none c _ (fun k => k != 59 && k != 60) rfl rfl, List.append_nil]
    have e59 : (pre.opts ++ nbp6.added c (oro6 req)).filter (fun o => o.1 == 59) =
        if (oro6 req).contains 59 then [(59, c.o59)] else [] := by
      rw [List.filter_append, filter_eq_nil_of_count h59, List.nil_append, nbp6_added_59,
        count_le_one_replicate _ _ _ ho59]
    have e60 : (pre.opts ++ nbp6.added c (oro6 req)).filter (fun o => o.1 == 60) =
        match c.o60 with
        | some p => if (oro6 req).contains 60 then [(60, encBootParams [p])] else []
        | none => [] := by
      rw [List.filter_append, filter_eq_nil_of_count h60, List.nil_append, nbp6_added_60]
      cases c.o60 with
      | none => rfl
      | some p => exact count_le_one_replicate _ _ _ ho60
    simp only [C17.holds6, plugHandle6, nbp6.handle, stops, e0, e59, e60, beq_self_eq_true, Bool.and_self]
    cases c.o60 <;> simp only [Bool.true_and, beq_self_eq_true]
  | sleep c => simp only [C17.holds6, plugHandle6, sleep.handle6, beq_self_eq_true]
  | serverid c => rfl

theorem rel6_eq (duid : Bytes) (req : ReqView6) :
    C14.rel6 duid req = match lookup 2 req.opts with
      | none => .absent
      | some sid => if sid = duid then .same else .other := by
  rw [C14.rel6, head_filter_lookup]
  cases lookup 2 req.opts with
  | none => rfl
  | some sid => simp only [Option.map_some, beq_iff_eq]

/-- the DHCPv6 handler is the matrix of RFC 8415 §16: discard, or stamp and go on -/
theorem serverid6_handle_eq (duid : Bytes) (req : ReqView6) (pre : Resp6) :
    serverid6.handle duid req pre =
      if C14.mustDiscard6 req.mt (C14.rel6 duid req) then (none, true) else (some (pre.update 2 duid), false) := by
  rw [rel6_eq, serverid6.handle]
  cases lookup 2 req.opts with
  | none =>
    -- the code tests 3, 5, 9, 8; the RFC table lists 3, 5, 8, 9
    simp only [C14.mustDiscard6, Bool.or_eq_true, beq_iff_eq, or_assoc, @or_comm (req.mt = 9)]
  | some sid =>
    by_cases hs : sid = duid
    · simp only [hs, if_true, C14.mustDiscard6, Bool.or_eq_true, beq_iff_eq, ne_eq, not_true_eq_false, if_false, or_assoc]
    · simp only [hs, if_false, C14.mustDiscard6, ne_eq, not_false_eq_true, if_true, ite_self]

theorem stamped4_update (addr : Bytes) (pre : Resp4) :
    C14.stamped4 addr pre ({ pre with siaddr := addr }.update 54 addr) = true := by
  unfold C14.stamped4 Resp4.update
  simp only [beq_self_eq_true, Bool.true_and, lookup_upd4_same]
  exact sameExcept_of _ _ _ (fun c hc => lookup_upd4_other 54 c addr pre.opts (by simpa using hc))

theorem serverid4_handle_eq (addr : Bytes) (req : ReqView4) (pre : Resp4) :
    serverid4.handle addr req pre =
      if req.op ≠ 1 then (some pre, false)
      else if C14.namesOther4 addr req then (none, true)
      else (some ({ pre with siaddr := addr }.update 54 addr), false) := by
  -- `namesOther4`'s disjunction is the handler's two successive tests: siaddr, then a four-byte option 54
  rw [serverid4.handle, C14.namesOther4, serverid4.sid54]
  by_cases hop : req.op = 1
  · simp only [hop, ne_eq, not_true_eq_false, if_false, beq_self_eq_true, Bool.true_and, Bool.or_eq_true, Bool.and_eq_true, bne_iff_ne]
    by_cases hs : req.siaddr ≠ [0, 0, 0, 0] ∧ req.siaddr ≠ addr
    · rw [if_pos hs, if_pos (.inl hs)]
    · rw [if_neg hs]
      cases lookup 54 req.opts with
      | none => simp only [hs, Bool.false_eq_true, or_self, if_false]
      | some v =>
        by_cases hl : v.length = 4
        · simp only [hl, if_true, hs, false_or, beq_self_eq_true, Bool.true_and, Bool.and_eq_true, bne_iff_ne]
        · simp only [hl, if_false, hs, false_or, beq_eq_false_iff_ne.mpr hl, Bool.false_and, Bool.false_eq_true]
  · simp only [ne_eq, hop, not_false_eq_true, if_true]

theorem ite_of {α : Type} {P : α → Prop} {c : Prop} [Decidable c] {a b : α} (ha : P a) (hb : P b) : P (if c then a else b) := by
  split <;> assumption

/-- What a handler may return, in either protocol: no response, and then the chain ends, or a response `within`
what it may change; it ends the chain only if it is one of those that `stops`. -/
def HandlerFrame {R : Type} (within : R → Prop) (stops : Bool) : Option R × Bool → Prop
  | (none, stop) => stop = true ∧ stops = true
  | (some r, stop) => within r ∧ (stop = true → stops = true)

namespace HandlerFrame
variable {R : Type} {within : R → Prop} {stops : Bool} {r : R} {out : Option R × Bool}

theorem go (h : within r) : HandlerFrame within stops (some r, false) := ⟨h, nofun⟩
theorem stop (h : within r) : HandlerFrame within true (some r, true) := ⟨h, fun _ => rfl⟩
theorem drop : HandlerFrame within true (none, true) := ⟨rfl, rfl⟩

theorem of_some {stop : Bool} (h : HandlerFrame within stops out) (e : out = (some r, stop)) : within r := by
  subst e; exact h.1

theorem of_none {stop : Bool} (h : HandlerFrame within stops out) (e : out = (none, stop)) : stop = true := by
  subst e; exact h.1

theorem exists_some (h : HandlerFrame within false out) : ∃ r, out = (some r, false) :=
  match out, h with
  | (none, _), f => absurd f.2 nofun
  | (some _, true), f => absurd (f.2 rfl) nofun
  | (some r, false), _ => ⟨r, rfl⟩

end HandlerFrame

def Plug.writes4 : Cfg4 → List Nat
  | .dns _ => [6] | .mtu _ => [26] | .netmask _ => [1] | .router _ => [3] | .leasetime _ => [51]
  | .search _ => [119] | .staticroute _ => [121] | .ipv6only _ => [108] | .autoconfigure _ => [116]
  | .nbp _ => [66, 67] | .sleep _ => [] | .serverid _ => [54]

def Plug.stops4 : Cfg4 → Bool
  | .ipv6only _ | .autoconfigure _ | .nbp _ | .serverid _ => true
  | _ => false

/-- `siaddr` goes with option 54, the server identifier: server_id writes both -/
structure Within4 (codes : List Nat) (pre r : Resp4) : Prop where
  mt : r.mt = pre.mt
  yiaddr : r.yiaddr = pre.yiaddr
  siaddr : 54 ∉ codes → r.siaddr = pre.siaddr
  opts {c : Nat} : c ∉ codes → lookup c r.opts = lookup c pre.opts

namespace Within4
variable {codes : List Nat} {pre r : Resp4}

theorem refl : Within4 codes pre pre := ⟨rfl, rfl, fun _ => rfl, fun _ => rfl⟩

theorem update (h : Within4 codes pre r) {c : Nat} (hc : c ∈ codes) (v : Bytes) : Within4 codes pre (r.update c v) :=
  ⟨h.mt, h.yiaddr, h.siaddr, fun {c'} hc' =>
    (lookup_upd4_other c c' v r.opts (fun e => hc' (e ▸ hc))).trans (h.opts hc')⟩

end Within4

theorem plugHandle4_frame (cfg : Cfg4) (req : ReqView4) (pre : Resp4) :
    HandlerFrame (Within4 (writes4 cfg) pre) (stops4 cfg) (plugHandle4 cfg req pre) := by
  have K : Within4 (writes4 cfg) pre pre := .refl
  cases cfg with
  | dns c | mtu c => exact .go (ite_of (K.update (.head _) _) K)
  | netmask c | router c | search c => exact .go (K.update (.head _) _)
  | leasetime c => exact ite_of (.go K) (.go (ite_of K (K.update (.head _) _)))
  | staticroute c => exact .go (ite_of K (K.update (.head _) _))
  | ipv6only c => exact ite_of (.stop (K.update (.head _) _)) (.go K)
  | autoconfigure c => exact ite_of (.go K) (ite_of (.go (K.update (.head _) _)) .drop)
  | nbp c =>
    have K66 : Within4 [66, 67] pre (match c.o66 with
        | some v => if requested4 req 66 then pre.update 66 v else pre
        | none => pre) := by
      split
      · exact ite_of (K.update (.head _) _) K
      · exact K
    exact .stop (ite_of (K66.update (.tail _ (.head _)) _) K66)
  | sleep c => exact .go K
  | serverid c =>
    have S0 : Within4 [54] pre { pre with siaddr := c } := ⟨rfl, rfl, fun h => absurd (.head _) h, fun _ => rfl⟩
    rw [plugHandle4, serverid4_handle_eq]
    exact ite_of (.go K) (ite_of .drop (.go (S0.update (.head _) _)))

theorem plugHandle4_within (cfg : Cfg4) (req : ReqView4) (pre r : Resp4) (stop : Bool)
    (h : plugHandle4 cfg req pre = (some r, stop)) : Within4 (writes4 cfg) pre r :=
  (plugHandle4_frame cfg req pre).of_some h

def Plug.writes6 : Cfg6 → List Nat
  | .dns _ => [23] | .search _ => [24] | .nbp _ => [59, 60] | .sleep _ => [] | .serverid _ => [2]

def Plug.stops6 : Cfg6 → Bool
  | .nbp _ | .serverid _ => true
  | _ => false

structure Within6 (codes : List Nat) (pre r : Resp6) : Prop where
  mt : r.mt = pre.mt
  opts {c : Nat} : c ∉ codes → r.opts.filter (fun o => o.1 == c) = pre.opts.filter (fun o => o.1 == c)

namespace Within6
variable {codes : List Nat} {pre r : Resp6}

theorem refl : Within6 codes pre pre := ⟨rfl, fun _ => rfl⟩

theorem update (h : Within6 codes pre r) {c : Nat} (hc : c ∈ codes) (v : Bytes) : Within6 codes pre (r.update c v) :=
  ⟨h.mt, fun {c'} hc' =>
    (filter_upd6 (· == c') c (beq_eq_false_iff_ne.mpr fun e => hc' (e ▸ hc)) v r.opts).trans (h.opts hc')⟩

end Within6

theorem plugHandle6_frame (cfg : Cfg6) (req : ReqView6) (pre : Resp6) :
    HandlerFrame (Within6 (writes6 cfg) pre) (stops6 cfg) (plugHandle6 cfg req pre) := by
  have K : Within6 (writes6 cfg) pre pre := .refl
  cases cfg with
  | dns c => exact .go (ite_of (K.update (.head _) _) K)
  | search c => exact .go (K.update (.head _) _)
  | nbp c =>
    refine .stop ⟨rfl, fun {k} hk => ?_⟩
    have h59 : (59 == k) = false := beq_eq_false_iff_ne.mpr fun e => hk (e ▸ .head _)
    have h60 : (60 == k) = false := beq_eq_false_iff_ne.mpr fun e => hk (e ▸ .tail _ (.head _))
    show (pre.opts ++ nbp6.added c (oro6 req)).filter _ = _
    rw [List.filter_append, nbp6_added_none c _ (· == k) h59 h60, List.append_nil]
  | sleep c => exact .go K
  | serverid c =>
    rw [plugHandle6, serverid6_handle_eq]
    exact ite_of .drop (.go (K.update (.head _) _))

theorem plugHandle6_within (cfg : Cfg6) (req : ReqView6) (pre r : Resp6) (stop : Bool)
    (h : plugHandle6 cfg req pre = (some r, stop)) : Within6 (writes6 cfg) pre r :=
  (plugHandle6_frame cfg req pre).of_some h

/-- `To4()` of a well-formed literal is four bytes long (an IPv6 literal has none) -/
theorem to4_len (i : IpLit) (b : Bytes) (hw : i.wf = true) (h : i.to4 = some b) : b.length = 4 := by
  cases i with
  | v4 x | mapped x => cases h; exact beq_iff_eq.mp (Bool.and_eq_true_iff.mp hw).1
  | v6 x => cases h

theorem to16_len (i : IpLit) (hw : i.wf = true) : i.to16.length = 16 := by
  -- twelve bytes in front of the four
  have h4 : ∀ x : Bytes, (x.length == 4 && x.all isByte) = true → (IpLit.v4 x).to16.length = 16 := by
    intro x hx
    rw [IpLit.to16, List.length_append, beq_iff_eq.mp (Bool.and_eq_true_iff.mp hx).1]
    rfl
  cases i with
  | v4 x | mapped x => exact h4 x hw
  | v6 x => exact beq_iff_eq.mp (Bool.and_eq_true_iff.mp hw).1

/-! `ArgOracle.wf` is a conjunction of four clauses, one per answer of the standard library; `Cidr.wf` one of four facts. -/

theorem wf_ip (a : ArgOracle) (i : IpLit) (hw : a.wf = true) (h : a.ip = some i) : i.wf = true := by
  unfold ArgOracle.wf at hw
  simp only [h, Bool.and_eq_true] at hw
  exact hw.1.1.1

theorem wf_mac (a : ArgOracle) (m : Bytes) (hw : a.wf = true) (h : a.mac = some m) :
    m.length = 6 ∨ m.length = 8 ∨ m.length = 20 := by
  unfold ArgOracle.wf at hw
  simp only [h, Bool.and_eq_true, Bool.or_eq_true, beq_iff_eq] at hw
  exact or_assoc.mp hw.1.1.2.2

theorem wf_cidr (a : ArgOracle) (c : Cidr) (hw : a.wf = true) (h : a.sr.cidr = some c) : c.wf = true := by
  unfold ArgOracle.wf at hw
  simp only [h, Bool.and_eq_true] at hw
  exact hw.1.2

theorem wf_router (a : ArgOracle) (i : IpLit) (hw : a.wf = true) (h : a.sr.router = some i) : i.wf = true := by
  unfold ArgOracle.wf at hw
  simp only [h, Bool.and_eq_true] at hw
  exact hw.2

/-- a well-formed IPv4 network: four bytes, a prefix length of at most 32, nothing behind the prefix's bytes -/
theorem wf_cidr32 (c : Cidr) (hw : c.wf = true) (hb : c.bits = 32) :
    c.ip.length = 4 ∧ c.ones ≤ 32 ∧ allZero (c.ip.drop ((c.ones + 7) / 8)) = true := by
  unfold Cidr.wf at hw
  simp only [hb, Bool.and_eq_true, decide_eq_true_eq, beq_self_eq_true, Bool.true_and, Bool.or_eq_true, beq_iff_eq,
    show ¬ (32 : Nat) = 128 by decide, false_and, or_false] at hw
  exact ⟨hw.1.2, hw.1.1.2, hw.2⟩

theorem allSome_map {α β : Type} (f : α → Option β) (l : List α) (r : List β) (h : allSome f l = some r) :
    l.map f = r.map some := by
  induction l generalizing r with
  | nil => cases h; rfl
  | cons a as ih =>
    unfold allSome at h
    split at h
    · next b bs hb hbs => cases h; rw [List.map_cons, List.map_cons, hb, ih bs hbs]
    · cases h

theorem allSome_mem {α β : Type} (f : α → Option β) (l : List α) (r : List β) (h : allSome f l = some r) :
    ∀ b ∈ r, ∃ a ∈ l, f a = some b := by
  intro b hb
  have : some b ∈ l.map f := allSome_map f l r h ▸ List.mem_map_of_mem hb
  exact List.mem_map.mp this

theorem allSome_ne_nil {α β : Type} (f : α → Option β) (l : List α) (r : List β) (h : allSome f l = some r)
    (hl : l ≠ []) : r ≠ [] := by
  intro hr
  have := allSome_map f l r h
  rw [hr, List.map_nil, List.map_eq_nil_iff] at this
  exact hl this

theorem allSome_none {α β : Type} (f : α → Option β) (l : List α) (a : α) (ha : a ∈ l) (h : f a = none) :
    allSome f l = none := by
  cases hr : allSome f l with
  | none => rfl
  | some r =>
    have : f a ∈ r.map some := allSome_map f l r hr ▸ List.mem_map_of_mem ha
    rw [h] at this
    obtain ⟨_, _, hb⟩ := List.mem_map.mp this
    cases hb

theorem single_some (args : List ArgOracle) (a : ArgOracle) (h : single args = some a) : args = [a] := by
  unfold single at h
  -- here and below: all branches of the definition but one return no value and die by `cases h`; the goal that is left is
  -- in the surviving branch, whose condition (when it is needed) is the anonymous hypothesis `‹_›`
  split at h <;> cases h
  rfl

/- dns, router and staticroute have one shape, `if args = [] then error else match allSome f args ..`; the `match` of the
model is a matcher per result type, so this lemma at `List Bytes` serves dns4, router and dns6, and staticroute has its copy. -/
theorem ipList_setup_ok (f : ArgOracle → Option Bytes) (args : List ArgOracle) (cfg : List Bytes)
    (h : (if args = [] then .error () else match allSome f args with | some l => .ok l | none => .error () : Except Unit (List Bytes)) = .ok cfg) :
    args ≠ [] ∧ allSome f args = some cfg := by
  split at h
  · cases h
  · next hne =>
    split at h <;> cases h
    exact ⟨hne, ‹_›⟩

theorem staticroute_setup_ok (args : List ArgOracle) (cfg : staticroute.Cfg) (h : staticroute.setup args = .ok cfg) :
    args ≠ [] ∧ allSome staticroute.route args = some cfg := by
  unfold staticroute.setup at h
  split at h
  · cases h
  · next hne =>
    split at h <;> cases h
    exact ⟨hne, ‹_›⟩

theorem staticroute_setup_ne (args : List ArgOracle) (cfg : staticroute.Cfg)
    (h : staticroute.setup args = .ok cfg) : cfg ≠ [] :=
  have ⟨hne, hs⟩ := staticroute_setup_ok args cfg h
  allSome_ne_nil _ _ _ hs hne

theorem all_of_ne_nil {α : Type} (p : α → Bool) (l : List α) (hne : l ≠ []) (h : ∀ b ∈ l, p b = true) :
    (!l.isEmpty && l.all p) = true := by
  cases l with
  | nil => exact absurd rfl hne
  | cons _ _ => exact List.all_eq_true.mpr h

theorem dns4_wire (args : List ArgOracle) (cfg : dns4.Cfg) (hwf : ∀ a ∈ args, a.wf = true)
    (h : dns4.setup args = .ok cfg) : (!cfg.isEmpty && cfg.all (·.length == 4)) = true := by
  obtain ⟨hne, hs⟩ := ipList_setup_ok _ args cfg h
  refine all_of_ne_nil _ cfg (allSome_ne_nil _ _ _ hs hne) (fun b hb => ?_)
  obtain ⟨a, ha, hf⟩ := allSome_mem _ _ _ hs b hb
  obtain ⟨i, hi, hb4⟩ := Option.bind_eq_some_iff.mp hf
  exact beq_iff_eq.mpr (to4_len i b (wf_ip a i (hwf a ha) hi) hb4)

theorem dns6_wire (args : List ArgOracle) (cfg : dns6.Cfg) (hwf : ∀ a ∈ args, a.wf = true)
    (h : dns6.setup args = .ok cfg) : cfg.all (·.length == 16) = true := by
  refine List.all_eq_true.mpr (fun b hb => ?_)
  obtain ⟨a, ha, hf⟩ := allSome_mem _ _ _ (ipList_setup_ok _ args cfg h).2 b hb
  obtain ⟨i, hi, rfl⟩ := Option.map_eq_some_iff.mp hf
  exact beq_iff_eq.mpr (to16_len i (wf_ip a i (hwf a ha) hi))

theorem netmask_setup_ok (args : List ArgOracle) (m : netmask.Cfg) (h : netmask.setup args = .ok m) :
    ∃ a ip, args = [a] ∧ a.ip = some ip ∧ ip.isUnspecified = false ∧ ip.to4 = some m ∧ netmask.checkValid m = true := by
  unfold netmask.setup at h
  split at h
  · cases h
  · next a hs =>
    split at h
    · cases h
    · next ip hip =>
      by_cases hu : ip.isUnspecified = true
      · rw [if_pos hu] at h; cases h
      · rw [if_neg hu] at h
        split at h
        · cases h
        · next m' hm =>
          split at h <;> cases h
          exact ⟨a, ip, single_some args a hs, hip, Bool.eq_false_iff.mpr hu, hm, ‹_›⟩

theorem netmask_wire (args : List ArgOracle) (cfg : netmask.Cfg) (hwf : ∀ a ∈ args, a.wf = true)
    (h : netmask.setup args = .ok cfg) : cfg.length = 4 := by
  obtain ⟨a, ip, rfl, hip, _, hm, _⟩ := netmask_setup_ok args cfg h
  exact to4_len ip cfg (wf_ip a ip (hwf a (.head _)) hip) hm

theorem serverid4_setup_ok (args : List ArgOracle) (addr : Bytes) (h : serverid4.setup args = .ok addr) :
    ∃ a rest ip, args = a :: rest ∧ a.ip = some ip ∧ ip.to4 = some addr := by
  unfold serverid4.setup at h
  split at h
  · cases h
  · next a rest =>
    split at h
    · cases h
    · next ip hip =>
      split at h <;> cases h
      exact ⟨a, rest, ip, rfl, hip, ‹_›⟩

theorem serverid4_wire (args : List ArgOracle) (cfg : serverid4.Cfg) (hwf : ∀ a ∈ args, a.wf = true)
    (h : serverid4.setup args = .ok cfg) : cfg.length = 4 := by
  obtain ⟨a, rest, ip, rfl, hip, hb⟩ := serverid4_setup_ok args cfg h
  exact to4_len ip cfg (wf_ip a ip (hwf a (.head _)) hip) hb

theorem serverid6_setup_ok (args : List ArgOracle) (duid : Bytes) (h : serverid6.setup args = .ok duid) :
    ∃ t v rest mac, args = t :: v :: rest ∧ v.mac = some mac ∧ (duid = encDuidLL mac ∨ duid = encDuidLLT mac) := by
  unfold serverid6.setup at h
  split at h
  · next t v rest =>
    by_cases he : t.raw = [] ∨ v.raw = []
    · rw [if_pos he] at h; cases h
    · rw [if_neg he] at h
      split at h
      · cases h
      · next mac hmac =>
        dsimp only at h
        split at h
        · cases h; exact ⟨t, v, rest, mac, rfl, hmac, .inl rfl⟩
        · split at h <;> cases h
          exact ⟨t, v, rest, mac, rfl, hmac, .inr rfl⟩
  · cases h

theorem serverid6_wire (args : List ArgOracle) (cfg : serverid6.Cfg) (hwf : ∀ a ∈ args, a.wf = true)
    (h : serverid6.setup args = .ok cfg) : cfg.length ≤ 65535 := by
  obtain ⟨t, v, rest, mac, rfl, hmac, hd⟩ := serverid6_setup_ok args cfg h
  have hl := wf_mac v mac (hwf v (.tail _ (.head _))) hmac
  rcases hd with rfl | rfl
  · show mac.length + 4 ≤ 65535
    omega
  · show mac.length + 8 ≤ 65535
    omega

theorem route_some (a : ArgOracle) (r : Route) (h : staticroute.route a = some r) :
    ∃ c rt, a.sr.cidr = some c ∧ c.bits = 32 ∧ cidrTo4 c.ip = some r.dest ∧ r.ones = c.ones ∧
      a.sr.router = some rt ∧ rt.to4 = some r.router := by
  unfold staticroute.route at h
  by_cases hf : a.sr.fields ≠ 2
  · rw [if_pos hf] at h; cases h
  · rw [if_neg hf] at h
    split at h
    · cases h
    · next c hc =>
      split at h
      · cases h
      · next d hd =>
        split at h
        · cases h
        · next hb =>
          split at h
          · cases h
          · next rt hrt =>
            split at h <;> cases h
            exact ⟨c, rt, hc, Decidable.of_not_not hb, hd, rfl, hrt, ‹_›⟩

theorem route_wire (a : ArgOracle) (r : Route) (hw : a.wf = true) (h : staticroute.route a = some r) :
    C19.routeOK r = true := by
  obtain ⟨c, rt, hc, hb, hd, ho, hrt, hg⟩ := route_some a r h
  obtain ⟨dest, ones, router⟩ := r
  dsimp only at hd ho hg
  subst ho
  obtain ⟨hlen, hones, hz⟩ := wf_cidr32 c (wf_cidr a c hw hc) hb
  rw [cidrTo4, if_pos hlen] at hd
  cases hd
  simp only [C19.routeOK, hones, hlen, hz, to4_len rt router (wf_router a rt hw hrt) hg, decide_true, beq_self_eq_true,
    Bool.and_self]

theorem staticroute_wire (args : List ArgOracle) (cfg : staticroute.Cfg) (hwf : ∀ a ∈ args, a.wf = true)
    (h : staticroute.setup args = .ok cfg) : (!cfg.isEmpty && cfg.all C19.routeOK) = true := by
  obtain ⟨hne, hs⟩ := staticroute_setup_ok args cfg h
  refine all_of_ne_nil _ cfg (allSome_ne_nil _ _ _ hs hne) (fun r hr => ?_)
  obtain ⟨a, ha, hf⟩ := allSome_mem _ _ _ hs r hr
  exact route_wire a r (hwf a ha) hf

theorem nameOK_eq (n : Bytes) : C19.nameOK n = domainOK n := by
  unfold C19.nameOK domainOK
  congr 1
  congr 1
  funext p
  rw [Bool.eq_iff_iff]
  simp only [Bool.and_eq_true, decide_eq_true_eq]
  omega

theorem search_setup_ok (args : List ArgOracle) (cfg : search.Cfg) (h : search.setup args = .ok cfg) :
    cfg = args.map (·.raw) ∧ ∀ a ∈ args, domainOK a.raw = true := by
  unfold search.setup at h
  split at h <;> cases h
  exact ⟨rfl, List.all_eq_true.mp ‹_›⟩

theorem search_wire (args : List ArgOracle) (cfg : search.Cfg) (h : search.setup args = .ok cfg) :
    cfg.all C19.nameOK = true := by
  obtain ⟨rfl, hall⟩ := search_setup_ok args cfg h
  rw [List.all_map, List.all_eq_true]
  exact fun a ha => (nameOK_eq a.raw).trans (hall a ha)

theorem ite_some_eq {α : Type} {c : Prop} [Decidable c] (a : α) (b : Option α) (v : α)
    (h : (if c then some a else b) = some v) : a = v ∨ b = some v := by
  by_cases hc : c
  · rw [if_pos hc] at h; exact .inl (Option.some.inj h)
  · rw [if_neg hc] at h; exact .inr h

theorem autoconfigure_setup_ok (args : List ArgOracle) (v : Nat) (h : autoconfigure.setup args = .ok v) :
    (args = [] ∧ v = 0) ∨ ∃ a, args = [a] ∧ autoconfigure.argValue a.raw = some v := by
  unfold autoconfigure.setup at h
  split at h
  · cases h; exact .inl ⟨rfl, rfl⟩
  · next a rest =>
    split at h
    · cases h
    · next v' hv =>
      split at h <;> cases h
      exact .inr ⟨a, by rw [‹rest = []›], hv⟩

theorem autoconfigure_wire (args : List ArgOracle) (cfg : Nat)
    (h : autoconfigure.setup args = .ok cfg) : cfg < 256 := by
  rcases autoconfigure_setup_ok args cfg h with ⟨_, rfl⟩ | ⟨a, _, hv⟩
  · decide
  · -- `argMap` has four rows, with the values 0 and 1: the value is this row's, or it is one further down
    unfold autoconfigure.argValue at hv
    iterate 4
      rcases ite_some_eq _ _ _ hv with rfl | hv
      · decide
    cases hv


theorem map_eq_ok {α β : Type} (k : α → β) (e : Except Unit α) (c : β) (h : e.map k = .ok c) :
    ∃ x, e = .ok x ∧ c = k x := by
  cases e with
  | error _ => cases h
  | ok x => cases h; exact ⟨x, rfl, rfl⟩

/-- `cfg` is what the set-up of its plugin makes of `args`. By cases: after `cases cfg` a hypothesis `Accepted4 args (.dns c)` IS
`dns4.setup args = .ok c`, and is used as such. -/
def Accepted4 (args : List ArgOracle) : Cfg4 → Prop
  | .dns c => dns4.setup args = .ok c
  | .mtu c => mtu.setup args = .ok c
  | .netmask c => netmask.setup args = .ok c
  | .router c => router.setup args = .ok c
  | .leasetime c => leasetime.setup args = .ok c
  | .search c => search.setup args = .ok c
  | .staticroute c => staticroute.setup args = .ok c
  | .ipv6only c => ipv6only.setup args = .ok c
  | .autoconfigure c => autoconfigure.setup args = .ok c
  | .nbp c => nbp4.setup args = .ok c
  | .sleep c => sleep.setup args = .ok c
  | .serverid c => serverid4.setup args = .ok c

def Accepted6 (args : List ArgOracle) : Cfg6 → Prop
  | .dns c => dns6.setup args = .ok c
  | .search c => search.setup args = .ok c
  | .nbp c => nbp6.setup args = .ok c
  | .sleep c => sleep.setup args = .ok c
  | .serverid c => serverid6.setup args = .ok c

theorem plugSetup4_accepted (name : String) (args : List ArgOracle) (cfg : Cfg4)
    (h : plugSetup4 name args = some (.ok cfg)) : Accepted4 args cfg := by
  unfold plugSetup4 at h
  -- twelve plugins: the name is this plugin's, and then its set-up said `.ok`, or it is one further down
  iterate 12
    rcases ite_some_eq _ _ _ h with h | h
    · obtain ⟨x, hx, rfl⟩ := map_eq_ok _ _ _ h
      exact hx
  cases h

theorem plugSetup6_accepted (name : String) (args : List ArgOracle) (cfg : Cfg6)
    (h : plugSetup6 name args = some (.ok cfg)) : Accepted6 args cfg := by
  unfold plugSetup6 at h
  iterate 5  -- five plugins
    rcases ite_some_eq _ _ _ h with h | h
    · obtain ⟨x, hx, rfl⟩ := map_eq_ok _ _ _ h
      exact hx
  cases h

theorem plugSetup_ok (proto : Nat) (name : String) (args : List ArgOracle) (cfg : PlugCfg)
    (h : plugSetup proto name args = some (.ok cfg)) :
    (∃ c, plugSetup4 name args = some (.ok c) ∧ cfg = .v4 c) ∨ (∃ c, plugSetup6 name args = some (.ok c) ∧ cfg = .v6 c) := by
  unfold plugSetup at h
  split at h
  · obtain ⟨e, he, h⟩ := Option.map_eq_some_iff.mp h
    obtain ⟨c, rfl, rfl⟩ := map_eq_ok _ _ _ h
    exact .inl ⟨c, he, rfl⟩
  · split at h
    · obtain ⟨e, he, h⟩ := Option.map_eq_some_iff.mp h
      obtain ⟨c, rfl, rfl⟩ := map_eq_ok _ _ _ h
      exact .inr ⟨c, he, rfl⟩
    · cases h

theorem mtu_setup_ok (args : List ArgOracle) (n : Int) (h : mtu.setup args = .ok n) :
    ∃ a, args = [a] ∧ a.int = some n ∧ 0 ≤ n ∧ n ≤ 65535 := by
  unfold mtu.setup at h
  split at h
  · next a hs =>
    split at h
    · next m hm =>
      split at h <;> cases h
      exact ⟨a, single_some args a hs, hm, by omega, by omega⟩
    · cases h
  · cases h

theorem mtu_accepted (args : List ArgOracle) (n : Int) (h : mtu.setup args = .ok n) : 0 ≤ n ∧ n ≤ 65535 :=
  have ⟨_, _, _, hn⟩ := mtu_setup_ok args n h
  hn

theorem leasetime_setup_ok (args : List ArgOracle) (d : Int) (h : leasetime.setup args = .ok d) :
    ∃ a rest, args = a :: rest ∧ a.dur = some d ∧ 0 ≤ d ∧ d ≤ 4294967295 * 1000000000 := by
  unfold leasetime.setup at h
  split at h
  · cases h
  · next a rest =>
    split at h
    · next d' hd =>
      split at h <;> cases h
      exact ⟨a, rest, rfl, hd, by omega, by omega⟩
    · cases h

theorem leasetime_accepted (args : List ArgOracle) (d : Int) (h : leasetime.setup args = .ok d) :
    0 ≤ d ∧ d ≤ 4294967295 * 1000000000 :=
  have ⟨_, _, _, _, hd⟩ := leasetime_setup_ok args d h
  hd

theorem ipv6only_setup_ok (args : List ArgOracle) (d : Int) (h : ipv6only.setup args = .ok d) :
    (args = [] ∧ d = 0) ∨ ∃ a, args = [a] ∧ a.dur = some d ∧ 0 ≤ d ∧ d ≤ 4294967295 * 1000000000 := by
  unfold ipv6only.setup at h
  split at h
  · cases h; exact .inl ⟨rfl, rfl⟩
  · next a rest =>
    split at h
    · cases h
    · next d' hd =>
      by_cases hr : d' < 0 ∨ d' > 4294967295 * 1000000000
      · rw [if_pos hr] at h; cases h
      · rw [if_neg hr] at h
        split at h <;> cases h
        exact .inr ⟨a, by rw [‹rest = []›], hd,
          Int.not_lt.mp fun h0 => hr (.inl h0),
          Int.not_lt.mp fun h1 => hr (.inr h1)⟩

theorem ipv6only_accepted (args : List ArgOracle) (d : Int) (h : ipv6only.setup args = .ok d) :
    0 ≤ d ∧ d ≤ 4294967295 * 1000000000 := by
  rcases ipv6only_setup_ok args d h with ⟨_, rfl⟩ | ⟨_, _, _, hd⟩
  · decide
  · exact hd

theorem inRange_mtu (n : Int) (h : 0 ≤ n ∧ n ≤ 65535) : C17.inRange4 (.mtu n) = true := by
  simp only [C17.inRange4, Bool.and_eq_true, decide_eq_true_eq]
  exact h

theorem inRange_leasetime (d : Int) (h : 0 ≤ d ∧ d ≤ 4294967295 * 1000000000) : C17.inRange4 (.leasetime d) = true := by
  simp only [C17.inRange4, Bool.and_eq_true, decide_eq_true_eq]
  exact ⟨h.1, Int.lt_of_le_of_lt h.2 (by decide)⟩

theorem inRange4_of_accepted (args : List ArgOracle) (cfg : Cfg4) (ha : Accepted4 args cfg) : C17.inRange4 cfg = true := by
  cases cfg with
  | mtu c => exact inRange_mtu c (mtu_accepted args c ha)
  | leasetime c => exact inRange_leasetime c (leasetime_accepted args c ha)
  | ipv6only c => exact inRange_leasetime c (ipv6only_accepted args c ha)
  | _ => rfl

theorem decBe_be (k v : Nat) : decBe k (be k v) = some (v % 256 ^ k) := by
  rw [decBe, if_pos (be_length k v), ofBe_be]

/-- what the encoders keep of a Go `int` is below the modulus, so `be` takes nothing more off -/
theorem toNat_emod_lt (z : Int) (m : Nat) (hm : 0 < m) : (z % m).toNat < m :=
  (Int.toNat_lt' hm).mpr (Int.emod_lt_of_pos z (Int.natCast_pos.mpr hm))

theorem decBe_encU16 (n : Int) : decBe 2 (encU16 n) = some (n % 65536).toNat := by
  rw [encU16, decBe_be]
  exact congrArg some (Nat.mod_eq_of_lt (toNat_emod_lt n 65536 (by decide)))

theorem decBe_encSecs (d : Int) : decBe 4 (encSecs d) = some (Int.tdiv d 1000000000 % 4294967296).toNat := by
  rw [encSecs, decBe_be]
  exact congrArg some (Nat.mod_eq_of_lt (toNat_emod_lt _ 4294967296 (by decide)))

theorem u16_exact_iff (n : Int) : (decBe 2 (encU16 n)).map Int.ofNat = some n ↔ 0 ≤ n ∧ n ≤ 65535 := by
  rw [decBe_encU16, Option.map_some, Option.some.injEq, Int.ofNat_eq_natCast,
    Int.toNat_of_nonneg (Int.emod_nonneg n (by decide))]
  omega

theorem secs_exact_iff (d : Int) :
    (decBe 4 (encSecs d)).map Int.ofNat = some (d / 1000000000) ↔ 0 ≤ d ∧ d < 4294967296 * 1000000000 := by
  rw [decBe_encSecs, Option.map_some, Option.some.injEq, Int.ofNat_eq_natCast,
    Int.toNat_of_nonneg (Int.emod_nonneg _ (by decide))]
  by_cases h0 : 0 ≤ d
  · rw [Int.tdiv_eq_ediv_of_nonneg h0]; omega
  · omega  -- a negative duration is never what a client reads, whatever Go's division (an atom here) makes of it

/-- a length-prefixed chunk is never longer than what follows its length byte -/
theorem not_length_append_lt {α : Type} (l t : List α) : ¬ (l ++ t).length < l.length := by
  rw [List.length_append]; exact Nat.not_lt.mpr (Nat.le_add_right _ _)

/-- A fuelled decoder that reads one encoded item per round reads a list of items back when it has a round per byte of
input and `k` more to see the end: every item takes at least a byte. -/
theorem decode_items {α : Type} (dec : Nat → Bytes → Option (List α)) (enc : α → Bytes) (P : α → Prop) (k : Nat)
    (hnil : ∀ fuel, k ≤ fuel → dec fuel [] = some [])
    (hne : ∀ x, P x → enc x ≠ [])
    (hstep : ∀ x, P x → ∀ fuel tail, dec (fuel + 1) (enc x ++ tail) = (dec fuel tail).map (x :: ·)) :
    ∀ l : List α, (∀ x ∈ l, P x) → ∀ fuel, (l.flatMap enc).length + k ≤ fuel → dec fuel (l.flatMap enc) = some l := by
  intro l
  induction l with
  | nil => exact fun _ fuel hf => hnil fuel (Nat.le_of_add_left_le hf)
  | cons x l ih =>
    intro h fuel hf
    have hx := List.length_pos_iff.mpr (hne x (h x (.head _)))
    rw [List.flatMap_cons, List.length_append] at hf
    cases fuel with
    | zero => omega
    | succ fuel =>
      rw [List.flatMap_cons, hstep x (h x (.head _)), ih (fun y hy => h y (.tail _ hy)) fuel (by omega)]
      rfl

theorem allZero_eq_replicate (l : Bytes) (h : allZero l = true) : l = List.replicate l.length 0 := by
  rw [List.eq_replicate_iff]
  exact ⟨rfl, fun b hb => by simpa using List.all_eq_true.mp h b hb⟩

theorem take_append_zeros (l : Bytes) (n : Nat) (h : allZero (l.drop n) = true) :
    l.take n ++ List.replicate (l.length - n) 0 = l := by
  have := allZero_eq_replicate _ h
  rw [List.length_drop] at this
  rw [← this, List.take_append_drop]

theorem decRoutes_encRoute (r : Route) (h : C19.routeOK r = true) (fuel : Nat) (tail : Bytes) :
    decRoutes (fuel + 1) (encRoute r ++ tail) = (decRoutes fuel tail).map (r :: ·) := by
  obtain ⟨dest, ones, router⟩ := r
  simp only [C19.routeOK, Bool.and_eq_true, decide_eq_true_eq, beq_iff_eq] at h
  obtain ⟨⟨⟨hones, hd⟩, hro⟩, hz⟩ := h
  -- the input: the prefix length, `n` bytes of the destination, the router, the rest
  have hn : (dest.take ((ones + 7) / 8)).length = (ones + 7) / 8 :=
    List.length_take_of_le (by rw [hd]; omega)
  have henc : encRoute ⟨dest, ones, router⟩ ++ tail = ones :: (dest.take ((ones + 7) / 8) ++ (router ++ tail)) := by
    rw [encRoute, Nat.mod_eq_of_lt (Nat.lt_of_le_of_lt hones (by decide)), List.cons_append, List.append_assoc]
  have hlen : ¬ (dest.take ((ones + 7) / 8) ++ (router ++ tail)).length < (ones + 7) / 8 + 4 := by
    rw [List.length_append, List.length_append, hn, hro]
    exact Nat.not_lt.mpr (Nat.add_le_add_left (Nat.le_add_right 4 _) _)
  -- what the decoder cuts out of it, and the destination padded back to four bytes
  have hpad : dest.take ((ones + 7) / 8) ++ List.replicate (4 - (ones + 7) / 8) 0 = dest := by
    have := take_append_zeros dest _ hz
    rwa [hd] at this
  rw [henc, decRoutes, if_neg (Nat.not_lt.mpr hones)]
  simp only [if_neg hlen, List.take_left' hn, List.drop_left' hn, List.take_left' hro, hpad]
  rw [← List.drop_drop, List.drop_left' hn, List.drop_left' hro]

namespace Labels

/-- the labels of one name on the wire, each behind its length, without the terminating zero -/
def encParts (ps : List Bytes) : Bytes := (ps.map (fun p => (p.length % 256) :: p)).flatten

/-- what `decLabelsGo` holds in `label` after reading the labels `ps` on top of `label`: the name so far, dots between -/
def joinLabel (label : Bytes) : List Bytes → Bytes
  | [] => label
  | p :: ps => joinLabel (if label = [] then p else label ++ 46 :: p) ps

/-- Every round of `decLabelsGo` eats a byte, so fuel above the length of the input is enough: with more rounds than bytes
of input, what the decoder makes (`res`) of the tail behind the labels `ps` it makes of the whole. `buf`, `old` and the flag
are the state of a compression pointer, never read: `encLabels` writes no pointer. -/
theorem decLabels_parts (buf : Bytes) (ps : List Bytes) (hps : ∀ p ∈ ps, 1 ≤ p.length ∧ p.length ≤ 63)
    (tail old : Bytes) (acc : List Bytes) (res : Option (List Bytes)) :
    ∀ label : Bytes,
      (∀ fuel, tail.length < fuel → decLabelsGo buf fuel tail old (joinLabel label ps) false acc = res) →
      ∀ fuel, (encParts ps ++ tail).length < fuel →
        decLabelsGo buf fuel (encParts ps ++ tail) old label false acc = res := by
  induction ps with
  | nil => exact fun label hk => hk
  | cons p ps ih =>
    intro label hk fuel hf
    have hp := hps p (.head _)
    have henc : encParts (p :: ps) ++ tail = p.length :: (p ++ (encParts ps ++ tail)) := by
      rw [encParts, List.map_cons, List.flatten_cons, Nat.mod_eq_of_lt (by omega), List.cons_append, List.cons_append,
        List.append_assoc]
      rfl
    rw [henc] at hf ⊢
    rw [List.length_cons, List.length_append] at hf
    cases fuel with
    | zero => omega
    | succ fuel =>
      unfold decLabelsGo
      have h0 : ¬ p.length = 0 := by omega
      -- a length of at most 63 has not both top bits set, so it is not read as a pointer
      have h3 : ¬ p.length / 64 % 4 = 3 := by
        rw [Nat.div_eq_of_lt (Nat.lt_succ_of_le hp.2)]
        decide
      simp only [h0, h3, not_length_append_lt, if_false, List.take_left', List.drop_left']
      exact ih (fun q hq => hps q (.tail _ hq)) _ hk fuel (by omega)

theorem joinLabel_ne (label : Bytes) (ps : List Bytes) (h : label ≠ []) :
    joinLabel label ps = label ++ (ps.map (46 :: ·)).flatten := by
  induction ps generalizing label with
  | nil => exact (List.append_nil label).symm
  | cons p ps ih =>
    rw [joinLabel, if_neg h, ih _ (List.append_ne_nil_of_right_ne_nil _ (List.cons_ne_nil _ _)), List.append_assoc]
    rfl

theorem split_join (name : Bytes) :
    ∃ p ps, splitOn 46 name = p :: ps ∧ name = p ++ (ps.map (46 :: ·)).flatten := by
  induction name with
  | nil => exact ⟨[], [], rfl, rfl⟩
  | cons b rest ih =>
    obtain ⟨p, ps, hsp, hj⟩ := ih
    unfold splitOn
    by_cases hb : b = 46
    · subst hb
      refine ⟨[], p :: ps, ?_, congrArg (46 :: ·) hj⟩
      rw [if_pos rfl, hsp]
    · refine ⟨b :: p, ps, ?_, congrArg (b :: ·) hj⟩
      rw [if_neg hb, hsp]

theorem joinLabel_split (name : Bytes) (h : ∀ p ∈ splitOn 46 name, 1 ≤ p.length ∧ p.length ≤ 63) :
    joinLabel [] (splitOn 46 name) = name := by
  obtain ⟨p, ps, hsp, hj⟩ := split_join name
  rw [hsp] at h ⊢
  have hp : p ≠ [] := by
    intro hnil
    subst hnil
    exact Nat.not_succ_le_zero _ (h [] (.head _)).1
  simp only [joinLabel, if_true]
  rw [joinLabel_ne p ps hp]
  exact hj.symm

/-- the labels of a name as the encoder needs them; `domainOK` (model) and `C19.nameOK` (specification, `nameOK_eq`) ask for this and
for at most 253 bytes, which the round trip does not need -/
def nameParts (name : Bytes) : Prop := ∀ p ∈ splitOn 46 name, 1 ≤ p.length ∧ p.length ≤ 63

theorem nameParts_ne (name : Bytes) (h : nameParts name) : name ≠ [] := by
  intro hn
  subst hn
  exact Nat.not_succ_le_zero _ (h [] (.head _)).1

theorem decLabels_name (buf name : Bytes) (h : nameParts name) (tail old : Bytes) (acc : List Bytes)
    (res : Option (List Bytes))
    (hk : ∀ fuel, tail.length < fuel → decLabelsGo buf fuel tail old [] false (acc ++ [name]) = res) :
    ∀ fuel, (encLabel name ++ tail).length < fuel → decLabelsGo buf fuel (encLabel name ++ tail) old [] false acc = res := by
  have henc : encLabel name ++ tail = encParts (splitOn 46 name) ++ (0 :: tail) := by
    rw [encLabel, if_neg (nameParts_ne name h), List.append_assoc]
    rfl
  rw [henc]
  refine decLabels_parts buf _ h (0 :: tail) old acc res [] fun fuel hf => ?_
  rw [joinLabel_split name h]
  cases fuel with
  | zero => cases hf
  -- the zero byte closes the name: `acc ++ [label]`, and the label starts empty again
  | succ fuel => exact hk fuel (Nat.lt_of_succ_lt_succ hf)

theorem decLabels_names (buf : Bytes) (names : List Bytes) (h : ∀ n ∈ names, nameParts n) :
    ∀ (old : Bytes) (acc : List Bytes) (fuel : Nat), (encLabels names).length < fuel →
      decLabelsGo buf fuel (encLabels names) old [] false acc = some (acc ++ names) := by
  induction names with
  | nil =>
    intro old acc fuel hf
    cases fuel with
    | zero => cases hf
    | succ fuel => rw [List.append_nil]; rfl
  | cons n ns ih =>
    intro old acc
    have henc : encLabels (n :: ns) = encLabel n ++ encLabels ns := rfl
    rw [henc]
    refine decLabels_name buf n (h n (.head _)) _ old acc _ fun fuel hf => ?_
    rw [ih (fun m hm => h m (.tail _ hm)) old _ fuel hf, List.append_assoc]
    rfl

theorem roundtrip (names : List Bytes) (h : ∀ n ∈ names, nameParts n) :
    decodeLabels (encLabels names) = some names :=
  -- `decodeLabels` runs `(L + 1)²` rounds on `L` bytes of input
  decLabels_names _ names h _ _ _ (Nat.le_mul_of_pos_right _ (Nat.succ_pos _))

theorem nameParts_of_nameOK (n : Bytes) (h : C19.nameOK n = true) : nameParts n := by
  unfold C19.nameOK at h
  simp only [Bool.and_eq_true, List.all_eq_true, decide_eq_true_eq] at h
  intro p hp
  have := h.2 p hp
  omega

end Labels

theorem decBootParams_step (p : Bytes) (hp : p.length < 65536) (fuel : Nat) (tail : Bytes) :
    decBootParams (fuel + 1) (be 2 p.length ++ p ++ tail) = (decBootParams fuel tail).map (p :: ·) := by
  -- the two length bytes read back as the length, then `p` is cut off
  have hn : p.length / 256 ^ 1 % 256 * 256 + p.length / 256 ^ 0 % 256 = p.length := by
    rw [Nat.pow_one, Nat.pow_zero, Nat.div_one, Nat.mod_eq_of_lt (Nat.div_lt_of_lt_mul hp), Nat.div_add_mod']
  show decBootParams (fuel + 1) (p.length / 256 ^ 1 % 256 :: p.length / 256 ^ 0 % 256 :: (p ++ tail)) = _
  rw [decBootParams]
  simp only [hn, if_neg (not_length_append_lt p tail), List.take_left', List.drop_left']

theorem decIPs4_one (ip : Bytes) (h : ip.length = 4) : decIPs4 ip = some [ip] :=
  match ip, h with
  | [_, _, _, _], _ => rfl

theorem decIPs4_more (ip : Bytes) (h : ip.length = 4) (rest : Bytes) (hr : rest ≠ []) :
    decIPs4 (ip ++ rest) = (decIPs4 rest).map (ip :: ·) :=
  match ip, h, rest, hr with
  | [_, _, _, _], _, _ :: _, _ => rfl

theorem ips4_roundtrip (ips : List Bytes) (hne : ips ≠ []) (h : ∀ ip ∈ ips, ip.length = 4) :
    decIPs4 (encIPs ips) = some ips := by
  induction ips with
  | nil => exact absurd rfl hne
  | cons x rest ih =>
    have hx := h x (.head _)
    have he : encIPs (x :: rest) = x ++ encIPs rest := rfl
    cases rest with
    | nil => rw [he, encIPs, List.flatten_nil, List.append_nil, decIPs4_one x hx]
    | cons y rest' =>
      have hr : encIPs (y :: rest') ≠ [] :=
        List.append_ne_nil_of_left_ne_nil (List.ne_nil_of_length_pos (by rw [h y (.tail _ (.head _))]; decide)) _
      rw [he, decIPs4_more x hx _ hr, ih (List.cons_ne_nil _ _) fun ip hip => h ip (.tail _ hip)]
      rfl

end CoreDhcp
