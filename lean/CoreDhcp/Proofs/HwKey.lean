/-
Lemmas about Model/HwKey.lean, on lists of characters (`parseHWAddr s = parseChars s.toList`, `macString m` is `macChars m` as a
`String`): `parseChars` inverts `macChars` on byte lists of every length, and the column's affinity does not change what it reads.
-/
import CoreDhcp.Model.HwKey
namespace CoreDhcp

theorem parseHexDigit_hexDigit_fin : ∀ n : Fin 16, parseHexDigit (hexDigit n.val) = some n.val := by
  decide +kernel

theorem parseHexDigit_hexDigit (n : Nat) (h : n < 16) : parseHexDigit (hexDigit n) = some n :=
  parseHexDigit_hexDigit_fin ⟨n, h⟩

theorem hexDigit_ne_colon_fin : ∀ n : Fin 16, hexDigit n.val ≠ ':' := by decide +kernel

theorem hexDigit_mod (n : Nat) : hexDigit (n % 16) = hexDigit n := by
  unfold hexDigit; rw [Nat.mod_mod]

theorem hexDigit_ne_colon (n : Nat) : hexDigit n ≠ ':' :=
  hexDigit_mod n ▸ hexDigit_ne_colon_fin ⟨n % 16, Nat.mod_lt _ (by decide)⟩

theorem parseHexDigit_of_ge (c : Char) (h : 128 ≤ c.toNat) : parseHexDigit c = none := by
  unfold parseHexDigit
  simp only
  generalize c.toNat = n at h
  rw [if_neg (by omega), if_neg (by omega), if_neg (by omega)]

/-- the hex digits are a table on the 128 ASCII characters: a fact about `c` follows from the table -/
theorem parseHexDigit_ascii_table : ∀ n : Fin 128, (parseHexDigit (Char.ofNat n)).all (· < 16) = true := by
  decide +kernel

theorem parseHexDigit_lt (c : Char) (d : Nat) (h : parseHexDigit c = some d) : d < 16 ∧ c.toNat ≤ 127 := by
  by_cases hc : c.toNat < 128
  · have := parseHexDigit_ascii_table ⟨c.toNat, hc⟩
    rw [Char.ofNat_toNat, h] at this
    exact ⟨by simpa using this, by omega⟩
  · rw [parseHexDigit_of_ge c (by omega)] at h; cases h

theorem parseHexDigit_utf8Size (c : Char) (d : Nat) (h : parseHexDigit c = some d) : c.utf8Size = 1 :=
  Char.utf8Size_eq_one_iff.mpr (parseHexDigit_lt c d h).2

theorem parsePart_eq_some (p : List Char) (b : Nat) :
    parsePart p = some b ↔ (∃ a, p = [a] ∧ parseHexDigit a = some b) ∨
      (∃ a c x y, p = [a, c] ∧ parseHexDigit a = some x ∧ parseHexDigit c = some y ∧ b = 16 * x + y) := by
  constructor
  · intro h
    unfold parsePart at h
    split at h
    · exact .inl ⟨_, rfl, h⟩
    · next a c =>
      cases ha : parseHexDigit a with
      | none => rw [ha] at h; cases h
      | some x =>
        cases hc : parseHexDigit c with
        | none => rw [ha, hc] at h; cases h
        | some y =>
          rw [ha, hc] at h
          cases h
          exact .inr ⟨a, c, x, y, rfl, ha, hc, rfl⟩
    · cases h
  · rintro (⟨a, rfl, h⟩ | ⟨a, c, x, y, rfl, ha, hc, rfl⟩)
    · exact h
    · simp only [parsePart, ha, hc]

theorem parsePart_lt (p : List Char) (b : Nat) (h : parsePart p = some b) : b < 256 := by
  rcases (parsePart_eq_some p b).1 h with ⟨a, -, ha⟩ | ⟨a, c, x, y, -, ha, hc, rfl⟩
  · have := (parseHexDigit_lt a b ha).1
    omega
  · have := (parseHexDigit_lt a x ha).1
    have := (parseHexDigit_lt c y hc).1
    omega

theorem parseParts_lt : ∀ (ps : List (List Char)) (m : List Nat), parseParts ps = some m → ∀ b ∈ m, b < 256
  | [], m, h => by cases h; exact fun _ hb => nomatch hb
  | p :: ps, m, h => by
    simp only [parseParts] at h
    cases hp : parsePart p with
    | none => rw [hp] at h; cases h
    | some x =>
      cases hps : parseParts ps with
      | none => rw [hp, hps] at h; cases h
      | some bs =>
        rw [hp, hps] at h
        cases h
        intro b hb
        rcases List.mem_cons.mp hb with rfl | hb
        · exact parsePart_lt p b hp
        · exact parseParts_lt ps bs hps b hb

theorem parseHWAddr_lt (s : String) (m : List Nat) (h : parseHWAddr s = some m) : ∀ b ∈ m, b < 256 := by
  unfold parseHWAddr parseChars at h
  split at h
  · cases h; exact fun _ hb => nomatch hb
  · exact parseParts_lt _ m h

theorem parsePart_hexPair (b : Nat) (hb : b < 256) : parsePart (hexPair b) = some b := by
  have h1 : b / 16 < 16 := Nat.div_lt_of_lt_mul hb
  have h2 : b % 16 < 16 := Nat.mod_lt _ (by decide)
  simp only [hexPair, parsePart, Nat.mod_eq_of_lt hb, parseHexDigit_hexDigit _ h1,
    parseHexDigit_hexDigit _ h2, Nat.div_add_mod]

theorem colon_not_mem_hexPair (b : Nat) : ':' ∉ hexPair b := by
  intro h
  simp only [hexPair, List.mem_cons, List.not_mem_nil, or_false] at h
  rcases h with h | h
  · exact hexDigit_ne_colon _ h.symm
  · exact hexDigit_ne_colon _ h.symm

theorem hexPair_ne_nil (b : Nat) : hexPair b ≠ [] := by simp [hexPair]

theorem splitColon_ne_nil (s : List Char) : splitColon s ≠ [] := by
  cases s with
  | nil => simp [splitColon]
  | cons c cs =>
    unfold splitColon
    split
    · simp
    · split <;> simp

/-- the `[]` arm mirrors the model's: it is dead (`splitColon_ne_nil`) -/
theorem splitColon_append (p s : List Char) (hp : ':' ∉ p) :
    splitColon (p ++ s) = match splitColon s with
      | q :: qs => (p ++ q) :: qs
      | [] => [p] := by
  induction p with
  | nil =>
    rw [List.nil_append]
    cases h : splitColon s with
    | nil => exact absurd h (splitColon_ne_nil s)
    | cons q qs => rfl
  | cons c cs ih =>
    have hc : c ≠ ':' := fun h => hp (by simp [h])
    have hcs : ':' ∉ cs := fun h => hp (List.mem_cons_of_mem _ h)
    simp only [List.cons_append, splitColon, hc, if_false, ih hcs]
    cases splitColon s <;> rfl

theorem splitColon_append_colon (p rest : List Char) (hp : ':' ∉ p) :
    splitColon (p ++ ':' :: rest) = p :: splitColon rest := by
  rw [splitColon_append p _ hp]; simp [splitColon]

theorem splitColon_single (p : List Char) (hp : ':' ∉ p) : splitColon p = [p] := by
  have := splitColon_append p [] hp
  simpa [splitColon] using this

/-- `strings.Split(strings.Join(parts, ":"), ":") = parts` for a non-empty list of parts none of
which contains ':'. -/
theorem splitColon_joinColon (parts : List (List Char)) (hne : parts ≠ [])
    (hp : ∀ p ∈ parts, ':' ∉ p) : splitColon (joinColon parts) = parts := by
  induction parts with
  | nil => exact absurd rfl hne
  | cons p ps ih =>
    cases ps with
    | nil => simpa [joinColon] using splitColon_single p (hp p (by simp))
    | cons q qs =>
      have h1 : ':' ∉ p := hp p (by simp)
      have h2 := ih (by simp) (fun r hr => hp r (List.mem_cons_of_mem _ hr))
      simp only [joinColon] at h2 ⊢
      rw [splitColon_append_colon _ _ h1, h2]

theorem parseParts_hexPairs (m : List Nat) (hb : ∀ b ∈ m, b < 256) :
    parseParts (m.map hexPair) = some m := by
  induction m with
  | nil => rfl
  | cons b bs ih =>
    have h1 := parsePart_hexPair b (hb b (by simp))
    have h2 := ih (fun x hx => hb x (List.mem_cons_of_mem _ hx))
    simp only [List.map_cons, parseParts, h1, h2]

theorem joinColon_ne_nil (p : List Char) (ps : List (List Char)) (hp : p ≠ []) :
    joinColon (p :: ps) ≠ [] := by
  cases ps with
  | nil => simpa [joinColon] using hp
  | cons q qs => simp [joinColon, hp]

/-- on the characters, `parseHWAddr` is a left inverse of `HardwareAddr.String()` on byte lists of every length (no column
affinity in between); on `String`s this is `C03_parse_macString` -/
theorem parseChars_macChars (m : List Nat) (hb : ∀ b ∈ m, b < 256) :
    parseChars (macChars m) = some m := by
  cases m with
  | nil => rfl
  | cons b bs =>
    have hne : macChars (b :: bs) ≠ [] := by
      simpa [macChars] using joinColon_ne_nil (hexPair b) (bs.map hexPair) (hexPair_ne_nil b)
    have hsplit : splitColon (macChars (b :: bs)) = (b :: bs).map hexPair := by
      apply splitColon_joinColon _ (by simp)
      intro p hp
      rw [List.mem_map] at hp
      obtain ⟨x, _, rfl⟩ := hp
      exact colon_not_mem_hexPair x
    unfold parseChars
    split
    · next h => exact absurd h hne
    · rw [hsplit]; exact parseParts_hexPairs _ hb

theorem isDecDigit_ne_colon (c : Char) (h : isDecDigit c = true) : c ≠ ':' := by
  rintro rfl; revert h; decide

theorem parsePart_zero (b : Char) : parsePart ['0', b] = parsePart [b] := by
  have : parseHexDigit '0' = some 0 := by decide
  simp only [parsePart, this]
  cases parseHexDigit b <;> simp

/-- The column's affinity is invisible to `parseHWAddr`, on every text: the only texts it changes are
two decimal digits with a leading '0', and those are one part that reads the same without it. -/
theorem parseChars_affinityChars (s : List Char) : parseChars (affinityChars s) = parseChars s := by
  unfold affinityChars
  split
  · next a b =>
    split
    · next hd =>
      rw [Bool.and_eq_true] at hd
      split
      · next h0 =>
        subst h0
        have hb := isDecDigit_ne_colon b hd.2
        have h0 : ('0' : Char) ≠ ':' := by decide
        simp only [parseChars, splitColon, hb, h0, if_false, parseParts, parsePart_zero]
      · rfl
    · rfl
  · rfl

theorem loadKeyChars_roundtrip (m : List Nat) (hb : ∀ b ∈ m, b < 256) : loadKeyChars m = some m := by
  rw [loadKeyChars, parseChars_affinityChars]; exact parseChars_macChars m hb

theorem loadKeyConcrete_eq_chars (m : List Nat) : loadKeyConcrete m = loadKeyChars m := by
  simp only [loadKeyConcrete, loadKeyChars, parseHWAddr, sqliteAffinity, macString,
    String.toList_ofList]

end CoreDhcp
