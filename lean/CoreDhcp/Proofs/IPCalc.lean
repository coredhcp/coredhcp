/-
Lemmas for C20 (prefix arithmetic `offset` / `addPrefixes`): what an `Addr` denotes, what
`math/bits` computes on `Nat`, and from those the two-limb subtraction, shift and addition of
ipcalc.go as operations on `Addr.val`.
-/
import CoreDhcp.Model.IPCalc
namespace CoreDhcp

/-- the two moduli in decimal; no proof uses them, they are for reading the statements below -/
theorem two64 : (2:Nat)^64 = 18446744073709551616 := by decide
theorem two128 : (2:Nat)^128 = 340282366920938463463374607431768211456 := by decide

theorem Addr.val_lt (a : Addr) : a.val < 2^128 := by
  have := a.hi.isLt
  have := a.lo.isLt
  unfold Addr.val
  omega

theorem Addr.hi_toNat (a : Addr) : a.hi.toNat = a.val / 2^64 := by
  rw [Addr.val, Nat.add_comm, Nat.add_mul_div_right _ _ (Nat.two_pow_pos 64), Nat.div_eq_of_lt a.lo.isLt,
    Nat.zero_add]

theorem Addr.lo_toNat (a : Addr) : a.lo.toNat = a.val % 2^64 := by
  rw [Addr.val, Nat.mul_add_mod_self_right, Nat.mod_eq_of_lt a.lo.isLt]

theorem Addr.ext_val {a b : Addr} (h : a.val = b.val) : a = b := by
  have hh := a.hi_toNat; have hl := a.lo_toNat
  rw [h, ← b.hi_toNat, BitVec.toNat_inj] at hh
  rw [h, ← b.lo_toNat, BitVec.toNat_inj] at hl
  cases a
  cases b
  cases hh
  cases hl
  rfl

theorem Addr.val_ofVal (n : Nat) : (Addr.ofVal n).val = n % 2^128 := by
  unfold Addr.val Addr.ofVal
  rw [BitVec.toNat_ofNat, BitVec.toNat_ofNat, show (2:Nat)^128 = 2^64 * 2^64 from rfl, Nat.mod_mul,
    Nat.add_comm, Nat.mul_comm]

theorem Addr.val_ofVal_of_lt {n : Nat} (h : n < 2^128) : (Addr.ofVal n).val = n := by
  rw [Addr.val_ofVal, Nat.mod_eq_of_lt h]

theorem Addr.ofVal_val (a : Addr) : Addr.ofVal a.val = a :=
  Addr.ext_val (Addr.val_ofVal_of_lt a.val_lt)

/-! `bits.Sub64` and `bits.Add64` by the one equation that defines each, with the borrow or carry
left a variable: the two-limb results below are then linear arithmetic. -/

theorem sub64_spec (x y c : BitVec 64) (hc : c.toNat ≤ 1) :
    (sub64 x y c).1.toNat + y.toNat + c.toNat = x.toNat + 2^64 * (sub64 x y c).2.toNat ∧
      (sub64 x y c).2.toNat ≤ 1 := by
  have := x.isLt
  have := y.isLt
  unfold sub64
  simp only [BitVec.toNat_sub]
  split
  · simp only [BitVec.toNat_ofNat]
    omega
  · simp only [BitVec.toNat_ofNat]
    omega

theorem add64_spec (x y c : BitVec 64) (hc : c.toNat ≤ 1) :
    (add64 x y c).1.toNat + 2^64 * (add64 x y c).2.toNat = x.toNat + y.toNat + c.toNat ∧
      (add64 x y c).2.toNat ≤ 1 := by
  have := x.isLt
  have := y.isLt
  unfold add64
  simp only [BitVec.toNat_add]
  split
  · simp only [BitVec.toNat_ofNat]
    omega
  · simp only [BitVec.toNat_ofNat]
    omega

theorem mul64_val (x y : BitVec 64) :
    (Addr.mk (mul64 x y).1 (mul64 x y).2).val = x.toNat * y.toNat := by
  have := Nat.mul_lt_mul'' x.isLt y.isLt
  unfold mul64 Addr.val
  rw [BitVec.toNat_ofNat, BitVec.toNat_ofNat, Nat.mod_eq_of_lt (Nat.div_lt_of_lt_mul this), Nat.div_add_mod']

theorem one_shl_toNat {k : Nat} (hk : k < 64) : (1#64 <<< k).toNat = 2^k := by
  rw [BitVec.shiftLeft_eq_mul_twoPow, BitVec.one_mul, BitVec.toNat_twoPow_of_lt hk]

/-- `x - b` on two limbs, as `offset` computes it for `prefixLength > 64`. -/
def sub128 (x b : Addr) : Addr :=
  ⟨(sub64 x.hi b.hi (sub64 x.lo b.lo 0#64).2).1, (sub64 x.lo b.lo 0#64).1⟩

theorem sub128_val (x b : Addr) (hle : b.val ≤ x.val) : (sub128 x b).val = x.val - b.val := by
  obtain ⟨el, hl⟩ := sub64_spec x.lo b.lo 0#64 (by decide)
  obtain ⟨eh, hh⟩ := sub64_spec x.hi b.hi _ hl
  have := x.lo.isLt
  have := (sub128 x b).lo.isLt
  have := (sub128 x b).hi.isLt
  simp only [sub128, Addr.val, BitVec.toNat_zero] at *
  omega

theorem div_pow_split (dh dl k : Nat) (hk : k ≤ 64) :
    (dh * 2^64 + dl) / 2^k = dh * 2^(64-k) + dl / 2^k := by
  rw [← Nat.pow_sub_mul_pow 2 hk, ← Nat.mul_assoc, Nat.add_comm,
    Nat.add_mul_div_right _ _ (Nat.two_pow_pos k), Nat.add_comm]

/-- The low 64 bits of `d >> k`, assembled from the two limbs: `distanceHigh + distanceLow` after the
shifts of `Offset`. -/
theorem shr128_lo (d : Addr) {j k : Nat} (hjk : j + k = 64) :
    (d.hi <<< j) + (d.lo >>> k) = BitVec.ofNat 64 (d.val / 2^k) := by
  have hk : k ≤ 64 := hjk ▸ Nat.le_add_left k j
  obtain rfl : j = 64 - k := Nat.eq_sub_of_add_eq hjk
  apply BitVec.eq_of_toNat_eq
  rw [BitVec.toNat_add, BitVec.toNat_shiftLeft, Nat.shiftLeft_eq, BitVec.toNat_ushiftRight,
    Nat.shiftRight_eq_div_pow, BitVec.toNat_ofNat, Addr.val, div_pow_split _ _ _ hk,
    Nat.mod_add_mod]

/-- The overflow test `distanceHigh >= 1 << (128 - prefixLength)` of `Offset`. -/
theorem shr128_ovf (d : Addr) {k : Nat} (hk : k < 64) :
    (1#64 <<< k).toNat ≤ d.hi.toNat ↔ 2^64 ≤ d.val / 2^k := by
  rw [one_shl_toNat hk, Addr.hi_toNat, Nat.le_div_iff_mul_le (Nat.two_pow_pos k),
    Nat.le_div_iff_mul_le (Nat.two_pow_pos 64), Nat.mul_comm]

theorem div_sub_div {a b w : Nat} (hw : 0 < w) (h : b % w = 0) : a / w - b / w = (a - b) / w := by
  obtain ⟨c, rfl⟩ := Nat.dvd_of_mod_eq_zero h
  rw [Nat.sub_mul_div, Nat.mul_div_cancel_left c hw]

/-- The `prefixLength <= 64` branch of `Offset`: with the low half of `base` 0, subtracting the high
halves alone loses no borrow. -/
theorem offset_le64 (x base : Addr) (p : Nat) (hp : p ≤ 64)
    (hlo : base.val % 2^64 = 0) (hle : base.val ≤ x.val) :
    ((x.hi - base.hi) >>> (64 - p)).toNat = (x.val - base.val) / 2^(128 - p) := by
  have hhi : base.hi ≤ x.hi := by
    rw [BitVec.le_def, Addr.hi_toNat, Addr.hi_toNat]; exact Nat.div_le_div_right hle
  rw [BitVec.toNat_ushiftRight, Nat.shiftRight_eq_div_pow, BitVec.toNat_sub_of_le hhi,
    Addr.hi_toNat, Addr.hi_toNat, div_sub_div (Nat.two_pow_pos 64) hlo, Nat.div_div_eq_div_mul,
    ← Nat.pow_add, ← Nat.add_sub_assoc hp]

theorem offset_eq_of_le (x base : Addr) (p : Nat) (hp : p ≤ 128) (hle : base.val ≤ x.val) :
    offset x base (p : Int) =
      if x = base then .ok 0#64
      else if p ≤ 64 then .ok ((x.hi - base.hi) >>> (64 - p))
      else if (1#64 <<< (128 - p)).toNat ≤ (sub128 x base).hi.toNat then .error .overflow
      else .ok (((sub128 x base).hi <<< (p - 64)) + ((sub128 x base).lo >>> (128 - p))) := by
  unfold offset
  rw [if_neg (by omega), Int.toNat_natCast, if_neg (Nat.not_lt.mpr hle)]
  rfl

/-- The two-limb add-with-carry tail of `addPrefixes`. -/
def add128 (off ip : Addr) : Except CalcErr Addr :=
  let l := add64 off.lo ip.lo 0#64
  let h := add64 off.hi ip.hi l.2
  if h.2 ≠ 0#64 then .error .overflow else .ok ⟨h.1, l.1⟩

theorem add128_exact (off ip : Addr) :
    add128 off ip =
      if ip.val + off.val < 2^128 then .ok (Addr.ofVal (ip.val + off.val))
      else .error .overflow := by
  obtain ⟨el, hl⟩ := add64_spec off.lo ip.lo 0#64 (by decide)
  obtain ⟨eh, hh⟩ := add64_spec off.hi ip.hi _ hl
  simp only [add128]
  generalize add64 off.lo ip.lo 0#64 = l at *
  generalize add64 off.hi ip.hi l.2 = h at *
  have e : (Addr.mk h.1 l.1).val + 2^128 * h.2.toNat = ip.val + off.val := by
    simp only [Addr.val, BitVec.toNat_zero] at el ⊢
    omega
  by_cases hc : h.2 = 0#64
  · rw [hc, BitVec.toNat_zero, Nat.mul_zero, Nat.add_zero] at e
    rw [if_neg (fun hne => hne hc), ← e, if_pos (Addr.val_lt _), Addr.ofVal_val]
  · have : 0 < h.2.toNat := Nat.pos_of_ne_zero fun h0 => hc (BitVec.eq_of_toNat_eq h0)
    have hge : 2^128 ≤ (Addr.mk h.1 l.1).val + 2^128 * h.2.toNat :=
      Nat.le_trans (Nat.le_mul_of_pos_right _ this) (Nat.le_add_left _ _)
    rw [if_pos hc, ← e, if_neg (Nat.not_lt.2 hge)]

theorem addPrefixes_unfold (ip : Addr) (n unit : BitVec 64) :
    addPrefixes ip n unit =
      if unit = 0#64 ∧ n ≠ 0#64 then .error .overflow
      else if n = 0#64 then .ok ip
      else if unit.toNat < 64 ∧ (n >>> unit.toNat) ≠ 0#64 then .error .overflow
      else add128
        (if unit.toNat ≤ 64 then ⟨n <<< (64 - unit.toNat), 0#64⟩
         else ⟨(mul64 n (1#64 <<< (128#64 - unit).toNat)).1,
               (mul64 n (1#64 <<< (128#64 - unit).toNat)).2⟩) ip := by
  unfold addPrefixes add128
  -- the model's `if` yields a pair, this one an `Addr`: they meet only once the test is decided
  by_cases h : unit.toNat ≤ 64
  · rw [if_pos h, if_pos h]
  · rw [if_neg h, if_neg h]

theorem ushr_ne_zero (n : BitVec 64) (u : Nat) : (n >>> u) ≠ 0#64 ↔ 2^u ≤ n.toNat := by
  rw [ne_eq, ← BitVec.toNat_inj, BitVec.toNat_ushiftRight, Nat.shiftRight_eq_div_pow,
    BitVec.toNat_zero, Nat.div_eq_zero_iff_lt (Nat.two_pow_pos u), Nat.not_lt]

/-- Why both range checks of `AddPrefixes` (`unit == 0 && n != 0`, `n>>unit != 0`) mean overflow. -/
theorem two_pow_128_le_mul {n u : Nat} (hu : u ≤ 128) (h : 2^u ≤ n) : 2^128 ≤ n * 2^(128 - u) := by
  rw [← Nat.pow_sub_mul_pow 2 hu, Nat.mul_comm]
  exact Nat.mul_le_mul_right _ h

/-- `offh:offl` of `AddPrefixes` for `unit ≤ 64`. -/
theorem shl_val (n : BitVec 64) (u : Nat) (hu : u ≤ 64) (hn : n.toNat < 2^u) :
    (Addr.mk (n <<< (64 - u)) 0#64).val = n.toNat * 2^(128 - u) := by
  have hlt : n.toNat * 2^(64-u) < 2^64 := by
    rw [← Nat.pow_sub_mul_pow 2 hu, Nat.mul_comm]
    exact Nat.mul_lt_mul_of_pos_left hn (Nat.two_pow_pos _)
  rw [Addr.val, BitVec.toNat_shiftLeft, Nat.shiftLeft_eq, Nat.mod_eq_of_lt hlt, BitVec.toNat_zero,
    Nat.add_zero, Nat.mul_assoc, ← Nat.pow_add, ← Nat.sub_add_comm hu]

end CoreDhcp
