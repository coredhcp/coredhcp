/-
The IPv4 bitmap allocator model satisfies the four history monitors (C04–C07) on every run.
`Inv4` ties the bitmap to the monitor's outstanding list (bit `o` is set exactly when address
`start + o` is out: `Bits.Tracks` with offset `o` standing for that address), every `Allocate` and
`Free` keeps it and passes the monitors; `Inv4.run` is the induction over the run, `A4.run_verdicts`
its start from a fresh allocator.
-/
import CoreDhcp.Proofs.AllocSpec
import CoreDhcp.Proofs.Bits
namespace CoreDhcp

/-! Found first, this spares the elaborator the long search through the order classes that it otherwise makes at every
step that meets a `==` on addresses. -/
local instance : LawfulBEq (BitVec 32) := inferInstance

theorem bv_add_ofNat_toNat {w : Nat} (s : BitVec w) (o : Nat) (h : s.toNat + o < 2^w) :
    (s + BitVec.ofNat w o).toNat = s.toNat + o := by
  have ho : (BitVec.ofNat w o).toNat = o :=
    Nat.mod_eq_of_lt (Nat.lt_of_le_of_lt (Nat.le_add_left o s.toNat) h)
  rw [BitVec.toNat_add_of_lt (ho.symm ▸ h), ho]

/-- No side condition: the arithmetic is mod 2^w. -/
theorem bv_add_off {w : Nat} (s x : BitVec w) : s + BitVec.ofNat w (x - s).toNat = x := by
  rw [BitVec.ofNat_toNat, BitVec.setWidth_eq, BitVec.add_comm, BitVec.sub_add_cancel]

theorem bv_off_add {w : Nat} (s : BitVec w) (o : Nat) (ho : o < 2^w) :
    (s + BitVec.ofNat w o - s).toNat = o := by
  rw [BitVec.add_comm, BitVec.add_sub_cancel, BitVec.toNat_ofNat, Nat.mod_eq_of_lt ho]

theorem bv_not_contains_iff {out : List (BitVec 32)} {x : BitVec 32} :
    (!out.contains x) = true ↔ x ∉ out := by
  rw [Bool.not_eq_true', ← Bool.not_eq_true, List.contains_iff_mem]

theorem bv_off_lt {w : Nat} {s e x : BitVec w} (h1 : s.toNat ≤ x.toNat) (h2 : x.toNat ≤ e.toNat) :
    (x - s).toNat < e.toNat - s.toNat + 1 := by
  rw [BitVec.toNat_sub_of_le h1]
  exact Nat.lt_succ_of_le (Nat.sub_le_sub_right h2 _)

/-- offsets up to `e - s` name different addresses -/
theorem bv_add_off_inj {w : Nat} (s e : BitVec w) {i : Nat} (hi : i < e.toNat - s.toNat + 1) (j : Nat)
    (hj : j < e.toNat - s.toNat + 1) (h : s + BitVec.ofNat w j = s + BitVec.ofNat w i) : j = i := by
  have hb : e.toNat - s.toNat + 1 ≤ 2^w := Nat.succ_le_of_lt (Nat.lt_of_le_of_lt (Nat.sub_le ..) e.isLt)
  rw [← bv_off_add s j (Nat.lt_of_lt_of_le hj hb), h, bv_off_add s i (Nat.lt_of_lt_of_le hi hb)]

/-- `hintOffset` of `Allocate`: 0 for every unusable hint -/
def A4.hintOff (a : A4) (h : Option (BitVec 32)) : Nat :=
  match a.toOffset h with | .ok o => o | .error _ => 0

theorem A4.allocate_eq (a : A4) (h : Option (BitVec 32)) (c : Option Nat) :
    a.allocate h c =
      match (if (!a.bm.test (a.hintOff h)) = true then some (some (a.hintOff h))
        else match c with
          | none => if a.bm.full then some none else none
          | some c => if c < a.bm.length ∧ !a.bm.test c then some (some c) else none) with
      | none => none
      | some none => some (a, .noaddr)
      | some (some n) =>
        if n % 2^32 > (a.stop - a.start).toNat then
          some (({ a with bm := a.bm.set n } : A4), A4Res.panic)
        else some ({ a with bm := a.bm.set n }, A4Res.ok (a.start + BitVec.ofNat 32 n)) := rfl

theorem A4.firstFit_admissible (a : A4) (h : Option (BitVec 32)) :
    (a.allocate h a.firstFit).isSome = true := by
  rw [A4.allocate_eq]
  unfold A4.firstFit
  generalize a.hintOff h = ho
  cases ht : a.bm.test ho
  · simp only [Bool.not_false, if_true]
    split <;> rfl
  · cases hn : a.bm.nextClear with
    | none => simp [Bits.nextClear_none _ hn]
    | some c =>
      obtain ⟨h1, h2⟩ := Bits.nextClear_some _ _ hn
      simp only [h1, h2, Bool.not_true, Bool.not_false, and_self, if_true,
        Bool.false_eq_true, if_false]
      split <;> rfl

/-- The ways through Go's `Allocate`: "no address available" (hint bit set, bitmap full); or bit `n` is
set, `n` the hint offset or the chosen clear bit, and `toIP` panics or returns `start + n`. -/
theorem A4.allocate_cases (a a' : A4) (h : Option (BitVec 32)) (c : Option Nat) (r : A4Res)
    (hr : a.allocate h c = some (a', r)) :
    (a' = a ∧ r = .noaddr ∧ a.bm.full = true ∧ a.bm.test (a.hintOff h) = true) ∨
    (∃ n, a.bm.test n = false ∧
      (n = a.hintOff h ∨ (a.bm.test (a.hintOff h) = true ∧ n < a.bm.length)) ∧
      a' = { a with bm := a.bm.set n } ∧
      ((r = .panic ∧ n % 2^32 > (a.stop - a.start).toNat) ∨
       (r = .ok (a.start + BitVec.ofNat 32 n) ∧ ¬ n % 2^32 > (a.stop - a.start).toNat))) := by
  rw [A4.allocate_eq] at hr
  generalize a.hintOff h = ho at hr ⊢
  split at hr
  · cases hr
  · next hnext =>
    cases hr
    refine Or.inl ⟨rfl, rfl, ?_⟩
    by_cases ht : (!a.bm.test ho) = true
    · rw [if_pos ht] at hnext
      cases hnext
    · rw [if_neg ht] at hnext
      cases c with
      | none =>
        simp only at hnext
        split at hnext
        · next hf => exact ⟨hf, by simpa using ht⟩
        · cases hnext
      | some c =>
        simp only at hnext
        split at hnext <;> cases hnext
  · next n hnext =>
    have hn : a.bm.test n = false ∧ (n = ho ∨ (a.bm.test ho = true ∧ n < a.bm.length)) := by
      by_cases ht : (!a.bm.test ho) = true
      · rw [if_pos ht] at hnext
        cases hnext
        exact ⟨by simpa using ht, Or.inl rfl⟩
      · rw [if_neg ht] at hnext
        cases c with
        | none =>
          simp only at hnext
          split at hnext <;> cases hnext
        | some c =>
          simp only at hnext
          split at hnext
          · next hc =>
            cases hnext
            exact ⟨by simpa using hc.2, Or.inr ⟨by simpa using ht, hc.1⟩⟩
          · cases hnext
    refine Or.inr ⟨n, hn.1, hn.2, ?_⟩
    split at hr
    · next hp =>
      cases hr
      exact ⟨rfl, Or.inl ⟨rfl, hp⟩⟩
    · next hp =>
      cases hr
      exact ⟨rfl, Or.inr ⟨rfl, hp⟩⟩

theorem A4.new_eq_ok (start stop : BitVec 32) (hle : start.toNat ≤ stop.toNat) :
    A4.new (some start) (some stop) = .ok ⟨start, stop, Bits.new (A4.size start stop)⟩ :=
  if_neg (Nat.not_lt.mpr hle)

theorem A4.allocate_keeps_bounds (a : A4) (hint : Option (BitVec 32)) (choice : Option Nat) (a' : A4) (r : A4Res)
    (h : a.allocate hint choice = some (a', r)) : a'.start = a.start ∧ a'.stop = a.stop := by
  rcases A4.allocate_cases a a' hint choice r h with ⟨rfl, -⟩ | ⟨n, -, -, rfl, -⟩ <;> exact ⟨rfl, rfl⟩

theorem A4.toOffset_inrange (a : A4) (x : BitVec 32) (h1 : a.start.toNat ≤ x.toNat)
    (h2 : x.toNat ≤ a.stop.toNat) : a.toOffset (some x) = .ok (x - a.start).toNat :=
  if_neg (by omega)

/-- No proof uses it; with `toOffset_inrange` and `toOffset_eq_ok` it completes the description of
`toOffset`. -/
theorem A4.toOffset_outrange (a : A4) (x : BitVec 32)
    (h : ¬ (a.start.toNat ≤ x.toNat ∧ x.toNat ≤ a.stop.toNat)) :
    a.toOffset (some x) = .error .notInRange :=
  if_pos (by omega)

theorem A4.toOffset_eq_ok {a : A4} {ip : Option (BitVec 32)} {o : Nat} (h : a.toOffset ip = .ok o) :
    ∃ x, ip = some x ∧ a.start.toNat ≤ x.toNat ∧ x.toNat ≤ a.stop.toNat ∧
      o = (x - a.start).toNat := by
  unfold A4.toOffset at h
  cases ip with
  | none => cases h
  | some x =>
    simp only at h
    split at h
    · cases h
    · next hn =>
      exact ⟨x, rfl, Nat.le_of_not_lt fun hl => hn (Or.inl hl), Nat.le_of_not_lt fun hl => hn (Or.inr hl),
        (Except.ok.inj h).symm⟩

theorem A4.free_cases (a : A4) (ip : Option (BitVec 32)) :
    (a.free ip = (a, .notInRange) ∧ ∃ e, a.toOffset ip = .error e) ∨
    (∃ o, a.toOffset ip = .ok o ∧
      ((a.bm.test o = false ∧ a.free ip = (a, .doubleFree)) ∨
       (a.bm.test o = true ∧ a.free ip = ({ a with bm := a.bm.clear o }, .ok)))) := by
  unfold A4.free
  cases a.toOffset ip with
  | error e => exact Or.inl ⟨rfl, e, rfl⟩
  | ok o =>
    refine Or.inr ⟨o, rfl, ?_⟩
    cases ht : a.bm.test o
    · exact Or.inl ⟨rfl, by simp only [ht, Bool.not_false, if_true]⟩
    · exact Or.inr ⟨rfl, by simp only [ht, Bool.not_true, Bool.false_eq_true, if_false]⟩

structure Inv4 (s e : BitVec 32) (a : A4) (out : List (BitVec 32)) : Prop where
  hs : a.start = s
  he : a.stop = e
  hle : s.toNat ≤ e.toNat
  hlen : a.bm.length = e.toNat - s.toNat + 1
  nodup : out.Nodup
  range : ∀ x ∈ out, s.toNat ≤ x.toNat ∧ x.toNat ≤ e.toNat
  bit : ∀ o, o < a.bm.length → (a.bm.test o = true ↔ (s + BitVec.ofNat 32 o) ∈ out)
  cnt : out.length = a.bm.count

section
variable {s e : BitVec 32} {a : A4} {out : List (BitVec 32)}

theorem Inv4.mem_iff (hI : Inv4 s e a out)
    (x : BitVec 32) (h1 : s.toNat ≤ x.toNat) (h2 : x.toNat ≤ e.toNat) :
    x ∈ out ↔ a.bm.test (x - s).toNat = true := by
  rw [hI.bit _ (hI.hlen ▸ bv_off_lt h1 h2), bv_add_off s x]

theorem Inv4.hintOff_lt (hI : Inv4 s e a out) (h : Option (BitVec 32)) :
    a.hintOff h < a.bm.length := by
  unfold A4.hintOff
  rw [hI.hlen]
  cases hto : a.toOffset h with
  | error _ => exact Nat.succ_pos _
  | ok o =>
    obtain ⟨x, _, h1, h2, rfl⟩ := A4.toOffset_eq_ok hto
    rw [← hI.hs, ← hI.he]
    exact bv_off_lt h1 h2

/-! Four of the fields of `Inv4` are `Bits.Tracks` with offset `o` standing for address `s + o`. -/

theorem Inv4.tracks (hI : Inv4 s e a out) :
    a.bm.Tracks (s + BitVec.ofNat 32 ·) (e.toNat - s.toNat + 1) out :=
  ⟨hI.hlen, hI.nodup, fun o ho => hI.bit o (hI.hlen ▸ ho), hI.cnt⟩

theorem Inv4.of_tracks (hs : a.start = s) (he : a.stop = e) (hle : s.toNat ≤ e.toNat)
    (hr : ∀ x ∈ out, s.toNat ≤ x.toNat ∧ x.toNat ≤ e.toNat)
    (T : a.bm.Tracks (s + BitVec.ofNat 32 ·) (e.toNat - s.toNat + 1) out) : Inv4 s e a out :=
  ⟨hs, he, hle, T.len, T.nodup, hr, fun o ho => T.test o (T.len ▸ ho), T.count⟩

theorem Inv4.init (s e : BitVec 32) (a : A4) (hnew : A4.new (some s) (some e) = .ok a) :
    Inv4 s e a [] := by
  unfold A4.new at hnew
  simp only at hnew
  split at hnew
  · cases hnew
  · next hgt =>
    cases hnew
    have hle : s.toNat ≤ e.toNat := Nat.le_of_not_gt hgt
    refine Inv4.of_tracks rfl rfl hle nofun ?_
    rw [← BitVec.toNat_sub_of_le hle]
    exact Bits.Tracks.new _ _

theorem Inv4.addr_of_clear (hI : Inv4 s e a out) (n : Nat) (hn : a.bm.test n = false)
    (hlt : n < a.bm.length) :
    s + BitVec.ofNat 32 n ∉ out ∧ s.toNat ≤ (s + BitVec.ofNat 32 n).toNat ∧
      (s + BitVec.ofNat 32 n).toNat ≤ e.toNat := by
  have hlen := hI.hlen
  have hle := hI.hle
  have h3 : s.toNat + n ≤ e.toNat := by omega
  rw [bv_add_ofNat_toNat s n (Nat.lt_of_le_of_lt h3 e.isLt)]
  refine ⟨fun hm => ?_, Nat.le_add_right .., h3⟩
  rw [← hI.bit n hlt, hn] at hm
  cases hm

theorem Inv4.alloc_ok (hI : Inv4 s e a out) (n : Nat) (hn : a.bm.test n = false) (hlt : n < a.bm.length) :
    Inv4 s e { a with bm := a.bm.set n } ((s + BitVec.ofNat 32 n) :: out) := by
  have hlt' : n < e.toNat - s.toNat + 1 := hI.hlen ▸ hlt
  refine Inv4.of_tracks hI.hs hI.he hI.hle ?_ (hI.tracks.set hlt' hn (bv_add_off_inj s e hlt'))
  intro x hx
  rcases List.mem_cons.1 hx with rfl | hx
  · exact (hI.addr_of_clear n hn hlt).2
  · exact hI.range x hx

theorem Inv4.no_panic (hI : Inv4 s e a out)
    (n : Nat) (hlt : n < a.bm.length) : ¬ n % 2^32 > (a.stop - a.start).toNat := by
  rw [hI.hs, hI.he, BitVec.toNat_sub_of_le hI.hle]
  have hlt : n < e.toNat - s.toNat + 1 := hI.hlen ▸ hlt
  exact Nat.not_lt.2 (Nat.le_trans (Nat.mod_le ..) (Nat.le_of_lt_succ hlt))

/-- C07 on the model: a hint naming a free address of the range is honoured, whatever the choice -/
theorem Inv4.allocate_hint_free (hI : Inv4 s e a out) (y : BitVec 32) (h1 : s.toNat ≤ y.toNat)
    (h2 : y.toNat ≤ e.toNat) (h3 : y ∉ out) (c : Option Nat) :
    ∃ a', a.allocate (some y) c = some (a', .ok y) ∧ Inv4 s e a' (y :: out) := by
  have ho : a.hintOff (some y) = (y - s).toNat := by
    unfold A4.hintOff
    rw [a.toOffset_inrange y (hI.hs.symm ▸ h1) (hI.he.symm ▸ h2), hI.hs]
  have ht : a.bm.test (a.hintOff (some y)) = false := by
    rw [ho, ← Bool.not_eq_true, ← hI.mem_iff y h1 h2]
    exact h3
  have hlt := hI.hintOff_lt (some y)
  have hI' := hI.alloc_ok _ ht hlt
  rw [ho, bv_add_off] at hI'
  refine ⟨_, ?_, hI'⟩
  rw [A4.allocate_eq]
  simp only [ht, Bool.not_false, if_true]
  rw [if_neg (hI.no_panic _ hlt), ho, hI.hs, bv_add_off]

/-- the same for the monitor: when its test "the hint names a free address of the range" holds,
whatever `Allocate` returned is that address -/
theorem Inv4.honoured {a' : A4} {c : Option Nat} {r : A4Res} (hI : Inv4 s e a out) (y : BitVec 32)
    (hc : (decide (s.toNat ≤ y.toNat) && decide (y.toNat ≤ e.toNat) && !out.contains y) = true)
    (hr : a.allocate (some y) c = some (a', r)) : r = .ok y := by
  simp only [Bool.and_eq_true, decide_eq_true_eq, bv_not_contains_iff] at hc
  obtain ⟨_, hy, -⟩ := hI.allocate_hint_free y hc.1.1 hc.1.2 hc.2 c
  rw [hy] at hr
  cases hr
  rfl

theorem Inv4.step_noaddr {a' : A4} {c : Option Nat} (hI : Inv4 s e a out) (h : Option (BitVec 32))
    (hfull : a.bm.full = true) (hr : a.allocate h c = some (a', .noaddr)) :
    (Mon4.step s e out (.alloc h .noaddr)).2.all = true := by
  have hcap := Nat.le_of_eq (hI.tracks.length_of_full hfull).symm
  refine (Verdict.all_iff _).2 ⟨rfl, decide_eq_true hcap, rfl, ?_⟩
  cases h with
  | none => rfl
  | some y =>
    show (!(decide (s.toNat ≤ y.toNat) && decide (y.toNat ≤ e.toNat) && !out.contains y)) = true
    cases hc : (decide (s.toNat ≤ y.toNat) && decide (y.toNat ≤ e.toNat) && !out.contains y)
    · rfl
    · cases hI.honoured y hc hr

theorem Inv4.step_ok {a' : A4} {c : Option Nat} (hI : Inv4 s e a out) (h : Option (BitVec 32))
    (n : Nat) (hn : a.bm.test n = false) (hlt : n < a.bm.length)
    (hr : a.allocate h c = some (a', .ok (s + BitVec.ofNat 32 n))) :
    (Mon4.step s e out (.alloc h (.ok (s + BitVec.ofNat 32 n)))).2.all = true := by
  obtain ⟨hnot, h5a, h5b⟩ := hI.addr_of_clear n hn hlt
  generalize s + BitVec.ofNat 32 n = x at hnot h5a h5b hr ⊢
  refine (Verdict.all_iff _).2 ⟨?_, ?_, rfl, ?_⟩
  · exact bv_not_contains_iff.2 hnot
  · show (decide (s.toNat ≤ x.toNat) && decide (x.toNat ≤ e.toNat)) = true
    rw [decide_eq_true h5a, decide_eq_true h5b]
    rfl
  · cases h with
    | none => rfl
    | some y => exact imp_bool _ _ fun hc => A4Res.ok.inj (hI.honoured y hc hr) ▸ beq_self_eq_true x

/-- `A4.allocate_cases` under the invariant: "no address available" of a full bitmap, or the
address at a clear bit (`toIP` does not panic) -/
theorem Inv4.allocate_cases {a' : A4} (hI : Inv4 s e a out) (h : Option (BitVec 32))
    (c : Option Nat) (r : A4Res)
    (hr : a.allocate h c = some (a', r)) :
    (a' = a ∧ r = .noaddr ∧ a.bm.full = true) ∨
    (∃ n, n < a.bm.length ∧ a.bm.test n = false ∧
      a' = { a with bm := a.bm.set n } ∧ r = .ok (s + BitVec.ofNat 32 n)) := by
  rcases A4.allocate_cases a a' h c r hr with ⟨h1, h2, h3, -⟩ | ⟨n, hn, hh, ha, hres⟩
  · exact Or.inl ⟨h1, h2, h3⟩
  · have hlt : n < a.bm.length := by
      rcases hh with rfl | ⟨_, hlt⟩
      · exact hI.hintOff_lt h
      · exact hlt
    rcases hres with ⟨_, hp⟩ | ⟨hr, _⟩
    · exact absurd hp (hI.no_panic n hlt)
    · exact Or.inr ⟨n, hlt, hn, ha, hI.hs ▸ hr⟩

theorem Inv4.step_alloc {a' : A4} (hI : Inv4 s e a out) (h : Option (BitVec 32))
    (c : Option Nat) (r : A4Res)
    (hr : a.allocate h c = some (a', r)) :
    Inv4 s e a' (Mon4.step s e out (.alloc h r)).1 ∧
      (Mon4.step s e out (.alloc h r)).2.all = true := by
  rcases hI.allocate_cases h c r hr with ⟨rfl, rfl, hf⟩ | ⟨n, hlt, hn, rfl, rfl⟩
  · exact ⟨hI, hI.step_noaddr h hf hr⟩
  · exact ⟨hI.alloc_ok n hn hlt, hI.step_ok h n hn hlt hr⟩

theorem Inv4.step_free (hI : Inv4 s e a out) (ip : Option (BitVec 32)) :
    Inv4 s e (a.free ip).1 (Mon4.step s e out (.free ip (a.free ip).2)).1 ∧
      (Mon4.step s e out (.free ip (a.free ip).2)).2.all = true := by
  rcases a.free_cases ip with ⟨hf, er, hto⟩ | ⟨o, hto, hf⟩
  · -- outside the range, so not out
    rw [hf]
    refine ⟨hI, (Verdict.all_iff _).2 ⟨rfl, rfl, ?_, rfl⟩⟩
    cases ip with
    | none => rfl
    | some x =>
      refine bv_not_contains_iff.2 fun hm => ?_
      have := hI.range x hm
      rw [a.toOffset_inrange x (hI.hs.symm ▸ this.1) (hI.he.symm ▸ this.2)] at hto
      cases hto
  · obtain ⟨x, rfl, h1, h2, ho⟩ := A4.toOffset_eq_ok hto
    rw [hI.hs] at h1 ho
    rw [hI.he] at h2
    subst ho
    have hmem := hI.mem_iff x h1 h2
    rcases hf with ⟨ht, hf⟩ | ⟨ht, hf⟩ <;> rw [hf]
    · -- double free: the bit is clear, so the address is not out
      refine ⟨hI, (Verdict.all_iff _).2 ⟨rfl, rfl, ?_, rfl⟩⟩
      refine bv_not_contains_iff.2 fun hm => ?_
      rw [hmem.1 hm] at ht
      cases ht
    · refine ⟨?_, (Verdict.all_iff _).2 ⟨rfl, rfl, ?_, rfl⟩⟩
      · show Inv4 s e _ (out.filter (· != x))
        have hlt := bv_off_lt h1 h2
        have T := hI.tracks.clear hlt ht (bv_add_off_inj s e hlt)
        rw [bv_add_off] at T
        exact Inv4.of_tracks hI.hs hI.he hI.hle (fun y hy => hI.range y (List.mem_filter.1 hy).1) T
      · exact List.contains_iff_mem.2 (hmem.2 ht)

theorem A4.run_nil_some {z : A4} {cs : List (Option Nat)} {evs : List Ev4}
    (hrun : A4.run a [] cs = some (evs, z)) : evs = [] := by
  rw [A4.run] at hrun
  cases hrun
  rfl

theorem A4.run_alloc_some {z : A4} {ops : List Op4} {cs : List (Option Nat)} {evs : List Ev4}
    {h : Option (BitVec 32)} (hrun : A4.run a (.alloc h :: ops) cs = some (evs, z)) :
    ∃ c cs' a' r evs', cs = c :: cs' ∧ a.allocate h c = some (a', r) ∧
      evs = .alloc h r :: evs' ∧ A4.run a' ops cs' = some (evs', z) := by
  cases cs with
  | nil =>
    rw [A4.run] at hrun
    cases hrun
  | cons c cs' =>
    rw [A4.run] at hrun
    cases hal : a.allocate h c with
    | none =>
      rw [hal] at hrun
      cases hrun
    | some ar =>
      obtain ⟨a', r⟩ := ar
      rw [hal] at hrun
      obtain ⟨evs', rfl, hrun'⟩ := map_cons_eq_some hrun
      exact ⟨c, cs', a', r, evs', rfl, hal, rfl, hrun'⟩

theorem A4.run_free_some {z : A4} {ops : List Op4} {cs : List (Option Nat)} {evs : List Ev4}
    {ip : Option (BitVec 32)} (hrun : A4.run a (.free ip :: ops) cs = some (evs, z)) :
    ∃ evs', evs = .free ip (a.free ip).2 :: evs' ∧
      A4.run (a.free ip).1 ops cs = some (evs', z) := by
  rw [A4.run] at hrun
  exact map_cons_eq_some hrun

theorem Inv4.run (ops : List Op4) :
    ∀ (a : A4) (out : List (BitVec 32)) (cs : List (Option Nat)) (evs : List Ev4) (z : A4),
      Inv4 s e a out → A4.run a ops cs = some (evs, z) →
      (Mon4.run s e out evs).all Verdict.all = true := by
  induction ops with
  | nil =>
    intro a out cs evs z _ hrun
    rw [A4.run_nil_some hrun]
    rfl
  | cons op ops ih =>
    intro a out cs evs z hI hrun
    cases op with
    | alloc h =>
      obtain ⟨c, cs', a', r, evs', rfl, hal, rfl, hrun'⟩ := A4.run_alloc_some hrun
      obtain ⟨hI', hv⟩ := hI.step_alloc h c r hal
      simp only [Mon4.run, List.all_cons, Bool.and_eq_true]
      exact ⟨hv, ih a' _ cs' evs' z hI' hrun'⟩
    | free ip =>
      obtain ⟨evs', rfl, hrun'⟩ := A4.run_free_some hrun
      obtain ⟨hI', hv⟩ := hI.step_free ip
      simp only [Mon4.run, List.all_cons, Bool.and_eq_true]
      exact ⟨hv, ih _ _ cs evs' z hI' hrun'⟩

end

/-- Every run of the IPv4 allocator model passes all four monitors at every step, for every
range `start ≤ end` including 0.0.0.0–255.255.255.255. -/
theorem A4.run_verdicts (s e : BitVec 32) (a : A4) (hnew : A4.new (some s) (some e) = .ok a)
    (ops : List Op4) (cs : List (Option Nat)) (evs : List Ev4) (z : A4)
    (hrun : A4.run a ops cs = some (evs, z)) :
    (Mon4.run s e [] evs).all Verdict.all = true :=
  Inv4.run ops a [] cs evs z (Inv4.init s e a hnew) hrun

end CoreDhcp
