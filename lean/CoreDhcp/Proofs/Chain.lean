/-
The handler chain `runChain` (Model/Dispatch.lean) for arbitrary request and response types: its
equations, the equations of its recursion-free specification `chainIn` / `chainStops` / `chainLen`
(Spec/Dispatch.lean) along the same recursion, that the two agree (C13), and invariants of the
response that every handler keeps. Then, for chains `chain.map handle` of elements (as `Sys.serve4/6`
run them, `handle` answering a nil response with `(none, true)`): what the element behind a prefix
that never ends the chain is handed, and what becomes of what it returns.
-/
import CoreDhcp.Spec.Dispatch
namespace CoreDhcp

section chain
variable {Req Resp : Type}

-- the model ignores the position argument (`| _, r => go hs 0 r`): the `0` in every statement is any number
theorem runChain_eq (hs : List (Req → Option Resp → Option Resp × Bool)) (req : Req) (n : Nat) (r : Option Resp) :
    runChain hs req n r = runChain.go req hs 0 r := rfl

theorem go_nil (req : Req) (i : Nat) (r : Option Resp) : runChain.go req [] i r = (r, []) := rfl

theorem go_cons (req : Req) (h : Req → Option Resp → Option Resp × Bool)
    (rest : List (Req → Option Resp → Option Resp × Bool)) (i : Nat) (r : Option Resp) :
    runChain.go req (h :: rest) i r =
      if (h req r).2 then ((h req r).1, [(i, r)])
      else ((runChain.go req rest (i + 1) (h req r).1).1,
            (i, r) :: (runChain.go req rest (i + 1) (h req r).1).2) := rfl

theorem chainIn_cons_succ (h : Req → Option Resp → Option Resp × Bool)
    (rest : List (Req → Option Resp → Option Resp × Bool)) (req : Req) (r0 : Option Resp) (n : Nat) :
    chainIn (h :: rest) req r0 (n + 1) = chainIn rest req (h req r0).1 n := by
  induction n with
  | zero => rfl
  | succ n ih => rw [chainIn, List.getElem?_cons_succ, ih]; rfl

theorem chainStops_cons_zero (h : Req → Option Resp → Option Resp × Bool)
    (rest : List (Req → Option Resp → Option Resp × Bool)) (req : Req) (r0 : Option Resp) :
    chainStops (h :: rest) req r0 0 = (h req r0).2 := rfl

theorem chainStops_cons_succ (h : Req → Option Resp → Option Resp × Bool)
    (rest : List (Req → Option Resp → Option Resp × Bool)) (req : Req) (r0 : Option Resp) (i : Nat) :
    chainStops (h :: rest) req r0 (i + 1) = chainStops rest req (h req r0).1 i := by
  rw [chainStops, List.getElem?_cons_succ, chainIn_cons_succ]; rfl

theorem chainLen_cons (h : Req → Option Resp → Option Resp × Bool)
    (rest : List (Req → Option Resp → Option Resp × Bool)) (req : Req) (r0 : Option Resp) :
    chainLen (h :: rest) req r0 = if (h req r0).2 then 1 else chainLen rest req (h req r0).1 + 1 := by
  unfold chainLen
  rw [List.length_cons, List.range_succ_eq_map, List.find?_cons, chainStops_cons_zero]
  cases (h req r0).2
  · rw [List.find?_map]
    have : (chainStops (h :: rest) req r0 ∘ Nat.succ) = chainStops rest req (h req r0).1 :=
      funext fun i => chainStops_cons_succ h rest req r0 i
    rw [this]
    cases List.find? (chainStops rest req (h req r0).1) (List.range rest.length) <;> rfl
  · rfl

/-- C13 (`C13_order`), for the walk started at any position `i` -/
theorem go_eq (req : Req) (hs : List (Req → Option Resp → Option Resp × Bool)) :
    ∀ (i : Nat) (r : Option Resp), runChain.go req hs i r =
      (chainIn hs req r (chainLen hs req r),
       (List.range (chainLen hs req r)).map fun j => (i + j, chainIn hs req r j)) := by
  induction hs with
  | nil => intro i r; rfl
  | cons h rest ih =>
    intro i r
    rw [go_cons, chainLen_cons]
    cases hstop : (h req r).2
    · rw [if_neg Bool.false_ne_true, if_neg Bool.false_ne_true, ih, chainIn_cons_succ, List.range_succ_eq_map,
        List.map_cons, List.map_map]
      congr 2
      apply List.map_congr_left
      intro j _
      show (i + 1 + j, _) = (i + (j + 1), chainIn (h :: rest) req r (j + 1))
      rw [chainIn_cons_succ, Nat.add_right_comm, Nat.add_assoc]
    · rfl

theorem go_invariant (P : Option Resp → Prop) (req : Req)
    (hs : List (Req → Option Resp → Option Resp × Bool))
    (hP : ∀ h ∈ hs, ∀ r, P r → P (h req r).1) :
    ∀ i r, P r → P (runChain.go req hs i r).1 := by
  induction hs with
  | nil => intro i r hr; exact hr
  | cons h rest ih =>
    intro i r hr
    have hh := hP h List.mem_cons_self r hr
    rw [go_cons]
    split
    · exact hh
    · exact ih (fun h' hm => hP h' (List.mem_cons_of_mem _ hm)) (i + 1) _ hh

theorem runChain_some_invariant (P : Resp → Prop) (req : Req)
    (hs : List (Req → Option Resp → Option Resp × Bool))
    (hsome : ∀ h ∈ hs, ∀ r r', (h req (some r)).1 = some r' → P r → P r')
    (hnil : ∀ h ∈ hs, (h req none).1 = none)
    (n : Nat) (r0 resp : Resp) (h0 : P r0) (hc : (runChain hs req n (some r0)).1 = some resp) : P resp := by
  refine go_invariant (fun r => ∀ x, r = some x → P x) req hs ?_ 0 (some r0)
    (fun x hx => Option.some.inj hx ▸ h0) resp hc
  intro h hm r hr x hx
  cases r with
  | none => rw [hnil h hm] at hx; cases hx
  | some y => exact hsome h hm y x hx (hr y rfl)

theorem go_cons_stop (req : Req) (h : Req → Option Resp → Option Resp × Bool)
    (rest : List (Req → Option Resp → Option Resp × Bool)) (i : Nat) (r x : Option Resp)
    (hh : h req r = (x, true)) :
    (runChain.go req (h :: rest) i r).1 = x := by
  rw [go_cons, hh]
  rfl

theorem go_fst_idx (req : Req) (l : List (Req → Option Resp → Option Resp × Bool)) (i j : Nat) (r : Option Resp) :
    (runChain.go req l i r).1 = (runChain.go req l j r).1 := by
  rw [go_eq, go_eq]

theorem go_cons_continue (req : Req) (h : Req → Option Resp → Option Resp × Bool)
    (rest : List (Req → Option Resp → Option Resp × Bool)) (i : Nat) (r x : Option Resp)
    (hh : h req r = (x, false)) :
    (runChain.go req (h :: rest) i r).1 = (runChain.go req rest 0 x).1 := by
  rw [go_cons, hh]
  exact go_fst_idx req rest (i + 1) 0 x

theorem go_cons_logged (req : Req) (h : Req → Option Resp → Option Resp × Bool)
    (rest : List (Req → Option Resp → Option Resp × Bool)) (i : Nat) (r : Option Resp) :
    (runChain.go req (h :: rest) i r).2.any (fun p => p.1 == i) = true := by
  rw [go_cons]
  split <;> simp

theorem go_append_through (req : Req) (l1 : List (Req → Option Resp → Option Resp × Bool))
    (hl : ∀ g ∈ l1, ∀ r, ∃ r', g req (some r) = (some r', false)) :
    ∀ i r, ∃ mid, (runChain.go req l1 i (some r)).1 = some mid ∧
      ∀ l2, runChain.go req (l1 ++ l2) i (some r) =
        ((runChain.go req l2 (i + l1.length) (some mid)).1,
         (runChain.go req l1 i (some r)).2 ++ (runChain.go req l2 (i + l1.length) (some mid)).2) := by
  induction l1 with
  | nil => intro i r; exact ⟨r, rfl, fun _ => rfl⟩
  | cons g rest ih =>
    intro i r
    obtain ⟨r', hr'⟩ := hl g List.mem_cons_self r
    obtain ⟨mid, h1, h2⟩ := ih (fun g' hm => hl g' (List.mem_cons_of_mem _ hm)) (i + 1) r'
    refine ⟨mid, ?_, fun l2 => ?_⟩
    · simp only [go_cons, hr', Bool.false_eq_true, if_false]
      exact h1
    · simp only [List.cons_append, go_cons, hr', Bool.false_eq_true, if_false, h2, List.length_cons]
      rw [Nat.add_assoc, Nat.add_comm 1]

end chain

section elems
variable {E Req Resp : Type} (handle : E → Req → Option Resp → Option Resp × Bool)

theorem chain_induct (hnone : ∀ e req, handle e req none = (none, true)) (P : Resp → Prop) (chain : List E) (req : Req)
    (hstep : ∀ e ∈ chain, ∀ r x, P r → (handle e req (some r)).1 = some x → P x)
    (r0 resp : Resp) (h0 : P r0) (hc : (runChain (chain.map handle) req 0 (some r0)).1 = some resp) : P resp :=
  runChain_some_invariant P req (chain.map handle)
    (List.forall_mem_map.mpr fun e he r r' hx hr => hstep e he r r' hr hx)
    (List.forall_mem_map.mpr fun e _ => congrArg Prod.fst (hnone e req)) 0 r0 resp h0 hc

theorem chain_cut (req : Req) (e : E) (hstop : ∀ r, (handle e req r).2 = true) (pre post : List E) (n : Nat)
    (r : Option Resp) :
    runChain ((pre ++ e :: post).map handle) req n r = runChain ((pre ++ [e]).map handle) req n r := by
  rw [runChain_eq, runChain_eq]
  generalize 0 = i
  induction pre generalizing i r with
  | nil => simp only [List.nil_append, List.map_cons, go_cons, hstop r, if_true]
  | cons g rest ih => simp only [List.cons_append, List.map_cons, go_cons, ih]

/-- The elements in front may drop the request or hand nil on, but none of them stops WITH a response (weaker than
the premise of `chain_through` and `chain_reach`): a response that leaves `pre ++ [e]` is one that `e` returned. -/
theorem chain_not_stopped_last (hnone : ∀ e req, handle e req none = (none, true)) (req : Req) (e : E) (pre : List E)
    (hpre : ∀ g ∈ pre, ∀ r x, handle g req (some r) ≠ (some x, true)) (r0 x : Resp)
    (hx : (runChain ((pre ++ [e]).map handle) req 0 (some r0)).1 = some x) :
    ∃ r', (handle e req (some r')).1 = some x := by
  rw [runChain_eq] at hx
  generalize 0 = i at hx
  generalize some r0 = r at hx
  induction pre generalizing i r with
  | nil =>
    rw [List.nil_append, List.map_cons, List.map_nil, go_cons] at hx
    cases r with
    | none => rw [hnone] at hx; cases hx
    | some r' =>
      refine ⟨r', ?_⟩
      split at hx <;> exact hx
  | cons g rest ih =>
    rw [List.cons_append, List.map_cons, go_cons] at hx
    split at hx
    · next hs =>
      cases r with
      | none => rw [hnone] at hx; cases hx
      | some r' => exact absurd (Prod.ext hx hs : handle g req (some r') = (some x, true)) (hpre g List.mem_cons_self r' x)
    · exact ih (fun g' hm => hpre g' (List.mem_cons_of_mem _ hm)) (i + 1) _ hx

/-- elements in front that all hand a response on without stopping: the chain is the rest, run on what they
made `mid` of the response, and the element behind them is invoked -/
theorem chain_through (req : Req) (pre : List E) (hpre : ∀ e ∈ pre, ∀ r, ∃ r', handle e req (some r) = (some r', false))
    (r0 : Resp) :
    ∃ mid, (runChain (pre.map handle) req 0 (some r0)).1 = some mid ∧
      (∀ rest, (runChain ((pre ++ rest).map handle) req 0 (some r0)).1 = (runChain (rest.map handle) req 0 (some mid)).1) ∧
      ∀ e post, (runChain ((pre ++ e :: post).map handle) req 0 (some r0)).2.any (fun p => p.1 == pre.length) = true := by
  obtain ⟨mid, h1, h2⟩ := go_append_through req (pre.map handle) (List.forall_mem_map.mpr hpre) 0 r0
  refine ⟨mid, h1, fun rest => ?_, fun e post => ?_⟩
  · rw [runChain_eq, List.map_append, h2]
    exact go_fst_idx req _ _ 0 _
  · rw [runChain_eq, List.map_append, h2, List.any_append, List.length_map, Nat.zero_add, List.map_cons,
      go_cons_logged, Bool.or_true]

/-- The element behind a prefix that never ends the chain is reached: it is handed what the prefix made of the
prepared response, and whatever holds of what it returned and is kept by every element behind it holds of a
response that leaves the chain (which is what it returned, passed through those elements unless it ended the chain). -/
theorem chain_reach (hnone : ∀ e req, handle e req none = (none, true)) (req : Req) (pre post : List E) (e : E)
    (hpre : ∀ e ∈ pre, ∀ r, ∃ r', handle e req (some r) = (some r', false)) (r0 resp : Resp)
    (hc : (runChain ((pre ++ e :: post).map handle) req 0 (some r0)).1 = some resp) :
    ∃ mid x, (runChain (pre.map handle) req 0 (some r0)).1 = some mid ∧ (handle e req (some mid)).1 = some x ∧
      ∀ P : Resp → Prop, P x → (∀ e' ∈ post, ∀ r y, P r → (handle e' req (some r)).1 = some y → P y) → P resp := by
  obtain ⟨mid, h1, h2, _⟩ := chain_through handle req pre hpre r0
  refine ⟨mid, ?_⟩
  rw [h2, runChain_eq, List.map_cons] at hc
  cases hx : handle e req (some mid) with
  | mk o stop =>
    cases stop with
    | true =>
      rw [go_cons_stop req _ _ 0 _ _ hx] at hc
      exact ⟨resp, h1, hc, fun _ hP _ => hP⟩
    | false =>
      rw [go_cons_continue req _ _ 0 _ _ hx] at hc
      cases o with
      | none =>
        cases post with
        | nil => cases hc
        | cons e' rest => rw [List.map_cons, go_cons_stop req _ _ 0 _ _ (hnone e' req)] at hc; cases hc
      | some x => exact ⟨x, h1, rfl, fun P hP hk => chain_induct handle hnone P post req hk x resp hP hc⟩

theorem chain_drop (hnone : ∀ e req, handle e req none = (none, true)) (req : Req) (pre post : List E) (e : E)
    (hpre : ∀ e ∈ pre, ∀ r, ∃ r', handle e req (some r) = (some r', false)) (r0 : Resp)
    (he : ∀ mid, (handle e req (some mid)).1 = none) :
    (runChain ((pre ++ e :: post).map handle) req 0 (some r0)).1 = none := by
  cases hc : (runChain ((pre ++ e :: post).map handle) req 0 (some r0)).1 with
  | none => rfl
  | some resp =>
    obtain ⟨mid, x, _, hx, _⟩ := chain_reach handle hnone req pre post e hpre r0 resp hc
    rw [he mid] at hx
    cases hx

end elems

end CoreDhcp
